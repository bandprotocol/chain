/-
C09 — committee selection is deterministic, exact-size, distinct and eligible.
Model: Model/Sampling.lean over an arbitrary stream of 64-bit draws (the HMAC-DRBG stream is
recomputed independently in Lean by the driver, Exec/Sha256.lean, and compared with Go).
-/
import BandVerif.Lemmas.SamplingBest

namespace C09
open BandVerif.Sampling

/-- ChooseOne: panics exactly when the weight sum overflows uint64 or is zero (`% 0`); otherwise the
    "unreachable" branch is unreachable and the index picked is in range with a positive weight. -/
theorem chooseOne_in_range (ws : List Nat) (x : Nat) :
    (chooseOne ws x = none ↔ (ws.sum ≥ two64 ∨ ws.sum = 0)) ∧
    (∀ i, chooseOne ws x = some i → i < ws.length ∧ 0 < ws.getD i 0) :=
  chooseOne_spec ws x

/-- ChooseSome over the index list 0..n-1: a returned sample has exactly `cnt` entries, all distinct,
    all valid indexes — for every weight vector and every stream. -/
theorem chooseSome_distinct_size (ws : List Nat) (cnt : Nat) (rand : Nat → Nat) (pos : Nat) (l : List Nat)
    (h : chooseSome cnt ws (List.range ws.length) rand pos = some l) :
    l.length = cnt ∧ l.Nodup ∧ ∀ i ∈ l, i < ws.length := by
  obtain ⟨h1, h2, h3⟩ := chooseSome_spec cnt ws _ rand pos l h
  exact ⟨h1, h3 List.nodup_range, fun i hi => List.mem_range.mp (h2 i hi)⟩

/-- …and with positive weights whose sum fits in uint64 and `cnt ≤ n` it never panics. -/
theorem chooseSome_never_panics (ws : List Nat) (cnt : Nat) (rand : Nat → Nat) (pos : Nat)
    (hcnt : cnt ≤ ws.length) (hp : ∀ w ∈ ws, 0 < w) (hs : ws.sum < two64) :
    ∃ l, chooseSome cnt ws (List.range ws.length) rand pos = some l :=
  chooseSome_total cnt ws _ rand pos (by simp) hcnt hp hs

/-- ChooseSomeMaxWeight returns one of the `tries` samplings (the try `t` starts at draw `t * cnt`),
    hence inherits exact size / distinctness / range; it returns the empty list only if no try beat 0. -/
theorem maxWeight_is_one_of_tries (ws : List Nat) (cnt tries : Nat) (rand : Nat → Nat) (l : List Nat)
    (h : chooseSomeMaxWeight ws cnt tries rand = some l) :
    l = [] ∨ (∃ t, t < tries ∧ chooseSome cnt ws (List.range ws.length) rand (t * cnt) = some l) ∧
             l.length = cnt ∧ l.Nodup ∧ ∀ i ∈ l, i < ws.length := by
  rcases (maxWeightGo_firstBest ws cnt rand tries 0 [] l (.zero ..) h).first with e | ⟨t, h2, h3, _⟩
  · exact Or.inl e
  · exact Or.inr ⟨⟨t, Nat.zero_add tries ▸ h2, h3⟩, chooseSome_distinct_size ws cnt rand _ l h3⟩

/-- PROPERTY ("best of N tries by total weight", and exact size without the empty-list escape): with positive weights
    whose sum fits uint64, 1 ≤ cnt ≤ n and at least one try — the preconditions GetRandomValidators establishes —
    ChooseSomeMaxWeight returns a full sample (exactly `cnt` distinct valid indexes), it is the sample of some try `t`, no
    try has a larger weight sum, and every EARLIER try has a strictly smaller one (ties go to the first). -/
theorem maxWeight_is_first_best_try (ws : List Nat) (cnt tries : Nat) (rand : Nat → Nat)
    (hc1 : 0 < cnt) (hcnt : cnt ≤ ws.length) (hp : ∀ w ∈ ws, 0 < w) (hs : ws.sum < two64) (ht : 0 < tries) :
    ∃ l t, chooseSomeMaxWeight ws cnt tries rand = some l ∧
      l.length = cnt ∧ l.Nodup ∧ (∀ i ∈ l, i < ws.length) ∧
      t < tries ∧ chooseSome cnt ws (List.range ws.length) rand (t * cnt) = some l ∧
      (∀ t' l', t' < tries → chooseSome cnt ws (List.range ws.length) rand (t' * cnt) = some l' → weightSum ws l' ≤ weightSum ws l) ∧
      (∀ t' l', t' < t → chooseSome cnt ws (List.range ws.length) rand (t' * cnt) = some l' → weightSum ws l' < weightSum ws l) := by
  have tot : ∀ pos, ∃ l, chooseSome cnt ws (List.range ws.length) rand pos = some l :=
    fun pos => chooseSome_never_panics ws cnt rand pos hcnt hp hs
  obtain ⟨l, hl⟩ := maxWeightGo_total ws cnt rand tries 0 0 [] tot
  have fb := maxWeightGo_firstBest ws cnt rand tries 0 [] l (.zero ..) hl
  rw [Nat.zero_add] at fb
  rcases fb.first with e | ⟨t, b2, b3, b5⟩
  · -- the empty list cannot survive: the first try already weighs more than 0
    exfalso
    obtain ⟨l0, h0⟩ := tot (0 * cnt)
    have p0 := weightSum_pos ws cnt rand (0 * cnt) l0 hp hs hc1 h0
    have := fb.max 0 l0 ht h0
    subst e
    have z : weightSum ws [] = 0 := rfl
    omega
  · obtain ⟨s1, s2, s3⟩ := chooseSome_distinct_size ws cnt rand _ l b3
    exact ⟨l, t, hl, s1, s2, s3, b2, b3, fb.max, b5⟩

/-- GetRandomMembers: an error exactly when the threshold exceeds the number of available members;
    otherwise exactly `threshold` distinct positions of the available list. -/
theorem randomMembers_distinct (n threshold : Nat) (rand : Nat → Nat) :
    (randomPositions n threshold rand = none ↔ threshold > n) ∧
    ∀ l, randomPositions n threshold rand = some l → l.length = threshold ∧ l.Nodup ∧ ∀ i ∈ l, i < n := by
  unfold randomPositions
  by_cases h : threshold > n
  · simp [h]
  · simp only [h, if_false]
    refine ⟨by simp, fun l hl => ?_⟩
    cases hl
    obtain ⟨h1, h2, h3⟩ := fisherYates_spec threshold (List.range n) rand 0 (by simp; omega) List.nodup_range
    exact ⟨h1, h2, fun i hi => List.mem_range.mp (h3 i hi)⟩

/-- Determinism: the selection is a function of (stream, weights/eligible list in iteration order,
    count, tries) — equal inputs give equal committees (stated so the dependency list is explicit). -/
theorem selection_is_function (ws ws' : List Nat) (cnt cnt' tries tries' : Nat) (rand rand' : Nat → Nat)
    (h1 : ws = ws') (h2 : cnt = cnt') (h3 : tries = tries') (h4 : ∀ i, rand i = rand' i) :
    chooseSomeMaxWeight ws cnt tries rand = chooseSomeMaxWeight ws' cnt' tries' rand' := by
  have : rand = rand' := funext h4
  subst h1 h2 h3 this; rfl

/-! non-vacuity -/
example : chooseOne [3, 0, 5] 4 = some 2 := by decide
example : chooseOne [0, 0] 4 = none := by decide
example : chooseSome 2 [3, 1, 5] [0, 1, 2] (fun i => [4, 0].getD i 0) 0 = some [2, 0] := by decide
example : (∀ w ∈ [3, 1, 5], 0 < w) ∧ [3, 1, 5].sum < two64 := by decide
example : randomPositions 3 4 (fun _ => 0) = none := by decide
example : randomPositions 3 2 (fun _ => 0) = some [0, 2] := by decide

end C09
