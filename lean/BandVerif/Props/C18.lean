/-
C18 — the signing group changes only through a completed, scheduled transition.
Model: Model/Transition.lean (the bandtss transition state machine and its tss callbacks); lemmas: Lemmas/Transition.lean.
-/
import BandVerif.Lemmas.Transition

namespace C18
open BandVerif.Transition

theorem addMembers_current (s s1 : State) (g : Nat) (h : addMembers s g = some s1) :
    s1.currentGroup = s.currentGroup ∧ s1.transition = s.transition ∧ s1.groupMembers = s.groupMembers :=
  (addMembers_eq_some.mp h).2 ▸ ⟨rfl, rfl, rfl⟩

/-- PROPERTY: proposals never change the current group; they are accepted only from the authority,
    with an execution time inside [now+min, now+max], and only while NO transition is in progress. -/
theorem proposal_gate (s : State) (auth : Bool) (now et : Int) (created : Option (Nat × List Nat)) :
    (propose s auth now et created).1.currentGroup = s.currentGroup ∧
    ((propose s auth now et created).2 = Err.ok →
        auth = true ∧ now + s.minDur ≤ et ∧ et ≤ now + s.maxDur ∧ s.transition = none ∧
        ∃ gid ms, created = some (gid, ms) ∧
          (propose s auth now et created).1.transition = some ⟨stCreating, et, 0, gid, s.currentGroup, false⟩) ∧
    ((propose s auth now et created).2 ≠ Err.ok → (propose s auth now et created).1 = s) :=
  have c := propose_cases s auth now et created
  ⟨c.inv (P := (·.currentGroup = s.currentGroup)) rfl fun _ ⟨_, _, _, _, _, _, _, e⟩ => e ▸ rfl,
   fun h => let ⟨a, b, c, d, gid, ms, hc, e⟩ := c.1 h; ⟨a, b, c, d, gid, ms, hc, e ▸ rfl⟩, c.2⟩

theorem force_gate (s : State) (auth : Bool) (now et : Int) (gid : Nat) (ex : Bool) :
    (force s auth now et gid ex).1.currentGroup = s.currentGroup ∧
    ((force s auth now et gid ex).2 = Err.ok →
        auth = true ∧ now + s.minDur ≤ et ∧ et ≤ now + s.maxDur ∧ s.transition = none ∧ gid ≠ s.currentGroup ∧
        s.groupActive gid = true ∧
        (force s auth now et gid ex).1.transition = some ⟨stWaitingExec, et, 0, gid, s.currentGroup, true⟩) ∧
    ((force s auth now et gid ex).2 ≠ Err.ok → (force s auth now et gid ex).1 = s) :=
  have c := force_cases s auth now et gid ex
  ⟨c.inv (P := (·.currentGroup = s.currentGroup)) rfl fun _ ⟨_, _, _, _, _, _, e⟩ => e ▸ rfl,
   fun h => let ⟨a, b, c, d, e, f, g⟩ := c.1 h; ⟨a, b, c, d, e, f, g ▸ rfl⟩, c.2⟩

/-- PROPERTY: no tss callback — group creation completed / failed / expired, signing completed / failed —
    ever changes the current group. -/
theorem callbacks_keep_current (s s' : State) (now : Int) (e : Event) (h : onEvent s now e = some s') :
    s'.currentGroup = s.currentGroup := by
  have c := onEvent_callback s now e
  rw [h] at c
  cases c <;> rfl

/-- PROPERTY: a transition reaches WAITING_EXECUTION through a callback only when the incoming group
    finished key generation and (first group: no current group) or the hand-over signing completed. -/
theorem waiting_execution_requires (s s' : State) (now : Int) (e : Event) (h : onEvent s now e = some s')
    (t' : Tr) (ht' : s'.transition = some t') (hw : t'.status = stWaitingExec)
    (hnot : ∀ t, s.transition = some t → t.status ≠ stWaitingExec) :
    ∃ t, s.transition = some t ∧ t'.incoming = t.incoming ∧ t'.execTime = t.execTime ∧
      ((∃ signOk sid, e = Event.creationCompleted t.incoming signOk sid ∧ t.status = stCreating ∧ t.current = 0 ∧ now ≤ t.execTime) ∨
       (e = Event.signingCompleted t.signingID ∧ t.status = stWaitingSign)) := by
  have c := onEvent_callback s now e
  rw [h] at c
  cases c with
  | ignored => exact absurd hw (hnot t' ht')
  | dropped => cases ht'
  | signing => cases ht'; cases hw
  | ready ga t ht why => cases ht'; exact ⟨t, ht, rfl, rfl, why⟩

/-- PROPERTY (the heart of C18): the bandtss end-blocker changes the current group only by executing a
    transition that is WAITING_EXECUTION at or after its execution time, to exactly the incoming group;
    a due transition in any other status is dropped and the current group stays; a transition that is
    not yet due is left alone. -/
theorem current_changes_only_by_execute (s : State) (now : Int) :
    ((endBlock s now).currentGroup ≠ s.currentGroup →
        ∃ t, s.transition = some t ∧ t.status = stWaitingExec ∧ t.execTime ≤ now ∧
          (endBlock s now).currentGroup = t.incoming ∧ (endBlock s now).transition = none) ∧
    (∀ t, s.transition = some t → t.execTime ≤ now → t.status ≠ stWaitingExec →
        (endBlock s now).transition = none ∧ (endBlock s now).currentGroup = s.currentGroup ∧
        (endBlock s now).bmembers = s.bmembers) ∧
    (∀ t, s.transition = some t → now < t.execTime → endBlock s now = s) ∧
    (s.transition = none → endBlock s now = s) := by
  rcases endBlock_cases s now with ⟨e, hlt⟩ | ⟨t, ht, hd, ⟨hs, e⟩ | ⟨hs, e⟩⟩ <;> rw [e]
  · exact ⟨fun h => absurd rfl h, fun t ht hd _ => by have := hlt t ht; omega, fun _ _ _ => rfl, fun _ => rfl⟩
  · exact ⟨fun h => absurd rfl h, fun _ _ _ _ => ⟨rfl, rfl, rfl⟩, fun t' ht' hl => by cases ht.symm.trans ht'; omega,
      fun h => by cases ht.symm.trans h⟩
  · exact ⟨fun _ => ⟨t, ht, hs, hd, rfl, rfl⟩, fun t' ht' _ hne => by cases ht.symm.trans ht'; exact absurd hs hne,
      fun t' ht' hl => by cases ht.symm.trans ht'; omega, fun h => by cases ht.symm.trans h⟩

/-- PROPERTY: a key generation that completes AFTER the execution time changes nothing (and the next
    bandtss end-block, which runs after the tss one, drops the still-CREATING transition). -/
theorem late_creation_ignored (s : State) (now : Int) (t : Tr) (signOk : Bool) (sid : Nat)
    (ht : s.transition = some t) (hlate : t.execTime < now) :
    ∃ s', onEvent s now (Event.creationCompleted t.incoming signOk sid) = some s' ∧ s'.transition = some t ∧
      s'.currentGroup = s.currentGroup ∧ s'.bmembers = s.bmembers ∧
      (t.status ≠ stWaitingExec → (endBlock s' now).transition = none ∧ (endBlock s' now).currentGroup = s.currentGroup) := by
  -- computed directly: `Callback.ignored` does not record which guard made the callback ignore the event
  simp only [onEvent, ht]
  rw [if_pos (.inr (.inr hlate))]
  refine ⟨_, rfl, rfl, rfl, rfl, fun hne => ?_⟩
  exact ((current_changes_only_by_execute _ now).2.1 t rfl (by omega) hne).imp_right And.left

/-- PROPERTY: requests are additionally put to the incoming group exactly while the transition is
    WAITING_EXECUTION (GetIncomingGroupID). -/
theorem incoming_only_while_waiting_execution (s : State) :
    (incomingGroup s ≠ 0 → ∃ t, s.transition = some t ∧ t.status = stWaitingExec ∧ incomingGroup s = t.incoming) ∧
    (∀ t, s.transition = some t → t.status = stWaitingExec → incomingGroup s = t.incoming) := by
  unfold incomingGroup
  cases ht : s.transition with
  | none => exact ⟨fun h => absurd rfl h, nofun⟩
  | some t =>
    dsimp only
    split
    · rename_i h; exact ⟨fun _ => ⟨t, rfl, h, rfl⟩, fun t' e _ => by cases e; rfl⟩
    · rename_i h; exact ⟨fun hh => absurd rfl hh, fun t' e h' => by cases e; exact absurd h' h⟩

/-- PROPERTY (member list after execution): executing removes exactly the old current group's
    entries; what remains for the new current group are the entries added when the transition became
    WAITING_EXECUTION. -/
theorem members_after_execution (s : State) (now : Int) (t : Tr) (ht : s.transition = some t)
    (hw : t.status = stWaitingExec) (hd : t.execTime ≤ now) :
    (endBlock s now).currentGroup = t.incoming ∧
    (endBlock s now).bmembers = (if t.current ≠ 0 then s.bmembers.filter (fun e => e.2 ≠ t.current) else s.bmembers) := by
  rcases endBlock_cases s now with ⟨_, hlt⟩ | ⟨t', ht', _, ⟨hs, _⟩ | ⟨_, e⟩⟩
  · have := hlt t ht; omega
  · cases ht.symm.trans ht'; exact absurd hw hs
  · cases ht.symm.trans ht'; rw [e]; exact ⟨rfl, by dsimp only; split <;> rfl⟩

/-- events arrive one by one in the order the tss end-blocker produces them -/
inductive Op
  | propose (auth : Bool) (now et : Int) (created : Option (Nat × List Nat))
  | force (auth : Bool) (now et : Int) (gid : Nat) (ex : Bool)
  | event (now : Int) (e : Event)
  | endBlock (now : Int)

/-- `none` = a Go panic inside a tss callback -/
def apply (s : State) : Op → Option State
  | .propose a n e c => some (propose s a n e c).1
  | .force a n e g x => some (force s a n e g x).1
  | .event n e => onEvent s n e
  | .endBlock n => some (endBlock s n)

/-- group ids handed to bandtss are real tss group ids: positive, and a freshly created group is not the current one -/
def OpOk (s : State) : Op → Prop
  | .propose _ _ _ (some (gid, _)) => gid ≠ 0 ∧ gid ≠ s.currentGroup
  | .force _ _ _ gid _ => gid ≠ 0
  | _ => True

structure TInv (s : State) : Prop where
  /-- the transition in progress was made for the current group and leads elsewhere -/
  cur : ∀ t, s.transition = some t → t.current = s.currentGroup ∧ t.incoming ≠ s.currentGroup ∧ t.incoming ≠ 0
  /-- the bandtss member list holds members of the current group and, only while WAITING_EXECUTION, of the incoming one -/
  mem : ∀ a g, (a, g) ∈ s.bmembers → g ≠ 0 ∧ (g = s.currentGroup ∨ ∃ t, s.transition = some t ∧ t.status = stWaitingExec ∧ g = t.incoming)

theorem addMembers_ok (s : State) (g : Nat) (h : ∀ a, (a, g) ∉ s.bmembers) :
    addMembers s g = some { s with bmembers := s.bmembers ++ (s.groupMembers g).map (fun a => (a, g)) } :=
  addMembers_eq_some.mpr ⟨fun a _ => h a, rfl⟩

/-- Same current group and member list; the transition is the old one, or — no incoming members being registered — any
    other (or none) that starts from the current group.  Covers every step except `AddMembers` and the execution. -/
theorem tinv_same_members (s s0 : State) (h : TInv s) (e1 : s0.currentGroup = s.currentGroup) (e2 : s0.bmembers = s.bmembers)
    (e3 : s0.transition = s.transition ∨ ((∀ t, s.transition = some t → t.status ≠ stWaitingExec) ∧
      ∀ t, s0.transition = some t → t.current = s.currentGroup ∧ t.incoming ≠ s.currentGroup ∧ t.incoming ≠ 0)) : TInv s0 := by
  refine ⟨fun t ht => ?_, fun a g hm => ?_⟩
  · rw [e1]; exact e3.elim (fun e => h.cur t (e ▸ ht)) fun e => e.2 t ht
  · obtain ⟨m1, m2⟩ := h.mem a g (e2 ▸ hm)
    refine ⟨m1, m2.imp (e1 ▸ id) fun ⟨t, q1, q2, q3⟩ => ?_⟩
    exact e3.elim (fun e => ⟨t, e ▸ q1, q2, q3⟩) fun e => absurd q2 (e.1 t q1)

/-- a change that touches neither the current group, the member list nor the transition -/
theorem tinv_frame (s s0 : State) (h : TInv s) (e1 : s0.currentGroup = s.currentGroup) (e2 : s0.bmembers = s.bmembers)
    (e3 : s0.transition = s.transition) : TInv s0 :=
  tinv_same_members s s0 h e1 e2 (.inl e3)

/-- clearing the transition keeps the invariant when no incoming members are registered -/
theorem tinv_clear (s : State) (h : TInv s) (hno : ∀ t, s.transition = some t → t.status ≠ stWaitingExec) (s0 : State)
    (e1 : s0.currentGroup = s.currentGroup) (e2 : s0.bmembers = s.bmembers) : TInv { s0 with transition := none } :=
  tinv_same_members s _ h e1 e2 (.inr ⟨hno, nofun⟩)

/-- no member of the incoming group is registered before the transition is WAITING_EXECUTION -/
theorem incoming_absent (s : State) (t : Tr) (h : TInv s) (ht : s.transition = some t) (hs : t.status ≠ stWaitingExec) (a : Nat) :
    (a, t.incoming) ∉ s.bmembers := by
  intro hm
  obtain ⟨_, m2⟩ := h.mem a t.incoming hm
  obtain ⟨_, c2, _⟩ := h.cur t ht
  rcases m2 with m2 | ⟨t0, q1, q2, _⟩
  · exact c2 m2
  · rw [ht] at q1; cases q1; exact hs q2

/-- registering the members of an incoming group `t.incoming` together with a WAITING_EXECUTION transition `t` that starts
    from the current group: old entries stay justified (an old transition, if any, has the same incoming group) -/
theorem tinv_register (s s0 : State) (t : Tr) (h : TInv s) (e1 : s0.currentGroup = s.currentGroup) (e2 : s0.bmembers = s.bmembers)
    (hc : t.current = s.currentGroup ∧ t.incoming ≠ s.currentGroup ∧ t.incoming ≠ 0) (hw : t.status = stWaitingExec)
    (hold : ∀ t0, s.transition = some t0 → t0.incoming = t.incoming) :
    TInv { s0 with bmembers := s0.bmembers ++ (s0.groupMembers t.incoming).map (fun a => (a, t.incoming)), transition := some t } := by
  refine ⟨fun t' ht' => by cases ht'; exact e1 ▸ hc, fun a g hm => ?_⟩
  rw [e1]
  rcases List.mem_append.mp hm with h1 | h1
  · obtain ⟨m1, m2⟩ := h.mem a g (e2 ▸ h1)
    exact ⟨m1, m2.imp id fun ⟨t0, q1, _, q3⟩ => ⟨t, rfl, hw, q3.trans (hold t0 q1)⟩⟩
  · obtain ⟨_, _, e⟩ := List.mem_map.mp h1
    cases e; exact ⟨hc.2.2, .inr ⟨t, rfl, hw, rfl⟩⟩

/-- adding the incoming group's members while moving to WAITING_EXECUTION keeps the invariant -/
theorem tinv_add (s : State) (t : Tr) (h : TInv s) (ht : s.transition = some t) (s0 : State)
    (e1 : s0.currentGroup = s.currentGroup) (e2 : s0.bmembers = s.bmembers) (e3 : s0.transition = s.transition) :
    TInv { s0 with bmembers := s0.bmembers ++ (s0.groupMembers t.incoming).map (fun a => (a, t.incoming)),
                   transition := some { t with status := stWaitingExec } } :=
  tinv_register s s0 { t with status := stWaitingExec } h e1 e2 (h.cur t ht) rfl fun t0 q => by cases ht.symm.trans q; rfl

theorem step_tinv (s : State) (op : Op) (h : TInv s) (ok : OpOk s op) : ∃ s', apply s op = some s' ∧ TInv s' := by
  cases op with
  | propose a n e c =>
    refine ⟨_, rfl, (propose_cases s a n e c).inv h fun _ ⟨_, _, _, hn, gid, ms, hc, e⟩ => ?_⟩
    subst hc e
    exact tinv_same_members s _ h rfl rfl (.inr ⟨fun t q => (by cases hn.symm.trans q), fun t q => by cases q; exact ⟨rfl, ok.2, ok.1⟩⟩)
  | force a n e gid ex =>
    refine ⟨_, rfl, (force_cases s a n e gid ex).inv h fun _ ⟨_, _, _, hn, hne, _, e⟩ => e ▸ ?_⟩
    exact tinv_register s s _ h rfl rfl ⟨rfl, hne, ok⟩ rfl fun t q => by cases hn.symm.trans q
  | endBlock n =>
    refine ⟨_, rfl, ?_⟩
    rcases endBlock_cases s n with ⟨e, _⟩ | ⟨t, ht, _, ⟨hs, e⟩ | ⟨hs, e⟩⟩ <;> rw [e]
    · exact h
    · exact tinv_clear s h (fun t0 q => by cases ht.symm.trans q; exact hs) s rfl rfl
    · -- execute: the incoming group becomes current; a remaining entry of the old current group `g ≠ 0` would have been deleted
      obtain ⟨c1, _, _⟩ := h.cur t ht
      refine ⟨nofun, fun a g hm => ?_⟩
      have hm' : (a, g) ∈ s.bmembers ∧ (t.current ≠ 0 → g ≠ t.current) := by
        dsimp only at hm; split at hm
        · simp only [deleteMembers, List.mem_filter, decide_eq_true_eq] at hm; exact ⟨hm.1, fun _ => hm.2⟩
        · rename_i hc; exact ⟨hm, fun hne => absurd hne hc⟩
      obtain ⟨m1, m2⟩ := h.mem a g hm'.1
      refine ⟨m1, .inl ?_⟩
      rcases m2 with m2 | ⟨t0, q1, _, q3⟩
      · have hg : g = t.current := m2.trans c1.symm
        exact absurd hg (hm'.2 (hg ▸ m1))
      · cases ht.symm.trans q1; exact q3
  | event n e =>
    have c := onEvent_callback s n e
    show ∃ s', onEvent s n e = some s' ∧ TInv s'
    generalize onEvent s n e = r at c
    cases c with
    | ignored ga => exact ⟨_, rfl, tinv_frame s _ h rfl rfl rfl⟩
    | dropped ga t ht hs =>
      exact ⟨_, rfl, tinv_clear s h (fun t0 q => by cases ht.symm.trans q; exact not_waitingExec hs) { s with groupActive := ga } rfl rfl⟩
    | signing ga t sid ht hs =>
      refine ⟨_, rfl, tinv_same_members s _ h rfl rfl (.inr ⟨fun t0 q => ?_, fun t0 q => ?_⟩)⟩
      · cases ht.symm.trans q; exact not_waitingExec (.inl hs)
      · cases q; exact h.cur t ht
    | panic t ht hs taken => exact absurd (fun a _ => incoming_absent s t h ht (not_waitingExec hs) a) taken
    | ready ga t ht _ => exact ⟨_, rfl, tinv_add s t h ht { s with groupActive := ga } rfl rfl rfl⟩

/-- run a history; `none` = some callback panicked -/
def run : List Op → State → Option State
  | [], s => some s
  | op :: rest, s => match apply s op with
    | none => none
    | some s' => run rest s'

/-- the operations of a history are well-formed relative to the state they meet -/
def RunOk : List Op → State → Prop
  | [], _ => True
  | op :: rest, s => OpOk s op ∧ ∀ s', apply s op = some s' → RunOk rest s'

/-- PROPERTY (over EVERY history of proposals, forced transitions, tss callbacks in any order and end-blocks): no callback
    ever panics (`AddMembers` inside OnGroupCreationCompleted / OnSigningCompleted cannot fail), the transition in progress
    always belongs to the current group, and the bandtss member list only ever holds the current group's members plus —
    exactly while WAITING_EXECUTION — the incoming group's -/
theorem transitions_never_panic_and_members_follow (ops : List Op) (s : State) (h : TInv s) (ok : RunOk ops s) :
    ∃ s', run ops s = some s' ∧ TInv s' := by
  induction ops generalizing s with
  | nil => exact ⟨s, rfl, h⟩
  | cons op rest ih =>
    obtain ⟨s1, e1, i1⟩ := step_tinv s op h ok.1
    simp only [run, e1]
    exact ih s1 i1 (ok.2 s1 e1)

/-! non-vacuity -/
def demo : State :=
  { currentGroup := 1, transition := some ⟨stWaitingExec, 100, 5, 2, 1, false⟩, groupMembers := fun g => if g = 1 then [10, 11] else [20, 21],
    groupActive := fun _ => true, bmembers := [(10, 1), (11, 1), (20, 2), (21, 2)], minDur := 5, maxDur := 50 }
example : (endBlock demo 100).currentGroup = 2 ∧ (endBlock demo 100).bmembers = [(20, 2), (21, 2)] := by decide
example : (endBlock demo 99).currentGroup = 1 ∧ (endBlock demo 99).transition = demo.transition := by decide
example : (endBlock { demo with transition := some ⟨stWaitingSign, 100, 5, 2, 1, false⟩ } 100).currentGroup = 1 := by decide
example : (propose { demo with transition := none } true 0 5 (some (3, [30]))).2 = Err.ok := by decide
example : (propose demo true 0 5 (some (3, [30]))).2 = Err.inProgress := by decide
/-- the demo state (transition WAITING_EXECUTION, members of both groups registered) satisfies the history invariant -/
example : TInv demo := by
  refine ⟨?_, ?_⟩
  · intro t ht; simp [demo] at ht; subst ht; decide
  · intro a g hm
    simp [demo] at hm
    rcases hm with ⟨rfl, rfl⟩ | ⟨rfl, rfl⟩ | ⟨rfl, rfl⟩ | ⟨rfl, rfl⟩
    · exact ⟨by decide, Or.inl rfl⟩
    · exact ⟨by decide, Or.inl rfl⟩
    · exact ⟨by decide, Or.inr ⟨_, rfl, rfl, rfl⟩⟩
    · exact ⟨by decide, Or.inr ⟨_, rfl, rfl, rfl⟩⟩

end C18
