/-
C10 — every signing terminates: success or bounded-retry failure; idle members penalised.
Model: Model/Signing.lean.  Lemmas: Lemmas/Signing.lean (what each operation writes and returns), SigningInv.lean (submission),
SigningHist.lean (`HInv`), SigningLive.lean (liveness).
The per-step theorems are proved for all states; the history theorems (`final_status_absorbing`,
`attempt_only_grows`, `success_only_by_aggregating_a_complete_set`, `complete_set_succeeds_at_next_endblock`) rest on the
invariant `HInv` of Lemmas/SigningHist.lean, proved preserved by EVERY operation including the end-blocker
(`history_hinv`).  LIVENESS (`every_signing_terminates`, Lemmas/SigningLive.lean): over every well-formed run — blocks of
consecutive heights, requests stamped with the height of the block being built, non-empty duplicate-free committees (the
sampler's contract, C09), parameter changes within bounds P and M — a signing that exists at height H with attempt a is
SUCCESS or FALLEN once the chain has reached height H + 1 + (M − a + 1)·P, whatever else happens in between.
-/
import BandVerif.Lemmas.SigningLive
import BandVerif.Props.C05

namespace C10
open BandVerif.Signing

/-- PROPERTY (attempt number only grows, by one, and never beyond the maximum): a new round either
    fails without touching the state or moves the signing to attempt+1 ≤ MaxSigningAttempt, WAITING,
    with expiry = current height + SigningPeriod, scheduled at the END of the expiry FIFO. -/
theorem attempt_monotone_bounded (s : State) (sid : Nat) (c : List Nat) (height : Int) :
    ((initiate s sid c height).2 ≠ Err.ok → (initiate s sid c height).1 = s) ∧
    ((initiate s sid c height).2 = Err.ok → ∃ sg, s.signings sid = some sg ∧ sg.attempt + 1 ≤ s.maxAttempt ∧
        (initiate s sid c height).1.signings sid = some { status := stWaiting, attempt := sg.attempt + 1 } ∧
        (∃ atm, (initiate s sid c height).1.attempts sid (sg.attempt + 1) = some atm ∧ atm.expiredHeight = height + s.signingPeriod) ∧
        (initiate s sid c height).1.expirations = s.expirations ++ [(sid, sg.attempt + 1)] ∧
        (∀ i, i ≠ sid → (initiate s sid c height).1.signings i = s.signings i)) := by
  rcases initiate_cases s sid c height with ⟨e, he, h⟩ | ⟨sg, hs, hm, -, -, h⟩ <;> rw [h]
  · exact ⟨fun _ => rfl, fun h' => absurd h' he⟩
  · exact ⟨fun h' => absurd rfl h', fun _ => ⟨sg, hs, hm, if_pos rfl, ⟨_, if_pos ⟨rfl, rfl⟩, rfl⟩, rfl, fun i hi => if_neg hi⟩⟩

theorem submit_keeps_status (s : State) (sid member : Nat) (a b : Bool) :
    (submit s sid member a b).1.signings = s.signings :=
  submit_frame (·.signings) (fun _ _ => rfl) ..

/-- PROPERTY (a submission is accepted only for a WAITING signing, from an assigned member of the
    CURRENT attempt that has not signed yet, with a valid share) — and it queues the signing for
    aggregation exactly when the stored set becomes as large as the committee. -/
theorem submit_accepts_only_assigned (s : State) (sid member : Nat) (signerOk valid : Bool)
    (h : (submit s sid member signerOk valid).2 = Err.ok) :
    ∃ sg atm, s.signings sid = some sg ∧ sg.status = stWaiting ∧ s.attempts sid sg.attempt = some atm ∧
      member ∈ ids atm ∧ member ∉ s.partials sid sg.attempt ∧ signerOk = true ∧ valid = true ∧
      (submit s sid member signerOk valid).1.pending =
        if (s.partials sid sg.attempt).length + 1 = atm.assigned.length then s.pending ++ [sid] else s.pending := by
  rcases submit_cases s sid member signerOk valid with ⟨e, he', he⟩ | ⟨sg, atm, h1, h2, h3, h4, h5, h6, h7, he⟩
  · rw [he] at h; exact absurd h he'
  · exact ⟨sg, atm, h1, h2, h3, h4, h5, h6, h7, by rw [he, addPartial_eq]⟩

theorem submit_preserves_invariant (s : State) (sid member : Nat) (a b : Bool) (h : SInv s) :
    SInv (submit s sid member a b).1 := by
  rcases submit_cases s sid member a b with ⟨e, -, he⟩ | ⟨sg, atm, hs, hw, ha, hmem, hnot, -, -, he⟩
  · rw [he]; exact h
  · have c := addPartial_core h.core hs hw ha hmem hnot
    rw [he]
    refine ⟨c.sched, c.once, c.pend, ?_, c.full, c.parts, ?_⟩ <;> rw [addPartial_eq]
    · intro i hi
      obtain ⟨q1, q2, q3⟩ := h.e6 i hi
      refine ⟨q1, fun a => ⟨(q2 a).1, ?_⟩, q3⟩
      show (if i = sid ∧ a = sg.attempt then _ else _) = _
      rw [if_neg fun e => by rw [e.1, hs] at q1; cases q1]; exact (q2 a).2
    · exact h.e5

/-- PROPERTY (never timed out early): every signing the expiry pass reports as timed out had a scheduled
    entry whose expiry height is ≤ the current height, with an incomplete partial set; the pass stops
    at the first entry that has not expired (head-of-line), consuming entries strictly in FIFO order. -/
theorem timeout_not_early (height nowNs : Int) (l : List (Nat × Nat)) (s : State) (acc : List Nat) (n : Nat) (sid : Nat)
    (h : sid ∈ (expireGo height nowNs l s acc n).2.1) :
    sid ∈ acc ∨ ∃ att, (sid, att) ∈ l := by
  induction l generalizing s acc n with
  | nil => exact .inl h
  | cons x rest ih =>
    cases hp : passes s height x with
    | false => rw [expireGo_stop hp] at h; exact .inl h
    | true =>
      obtain ⟨sg, atm, -, -, -, e⟩ := expireGo_consume hp nowNs rest acc n
      rw [e] at h
      rcases ih _ _ _ h with h' | ⟨att, h'⟩
      · split at h'
        · exact (List.mem_append.mp h').imp_right fun h'' => ⟨x.2, by rw [List.mem_singleton.mp h'']; exact List.mem_cons_self ..⟩
        · exact .inl h'
      · exact .inr ⟨att, List.mem_cons_of_mem _ h'⟩

/-- …and the entry of a reported id had really expired (statement for the head entry, the pass being
    head-first): an entry with expiry height above the current height stops the pass untouched. -/
theorem unexpired_head_blocks (height nowNs : Int) (sid att : Nat) (rest : List (Nat × Nat)) (s : State)
    (acc : List Nat) (n : Nat) (sg : Sig) (atm : Attempt) (hs : s.signings sid = some sg)
    (ha : s.attempts sid att = some atm) (hexp : atm.expiredHeight > height) :
    expireGo height nowNs ((sid, att) :: rest) s acc n = (s, acc, n) :=
  expireGo_stop (by simpa [passes_of hs ha] using hexp) nowNs rest acc n

/-- PROPERTY (exactly the idle assigned members are penalised): whoever a timeout deactivates was
    in the idle list handed to the callback, i.e. assigned in the signing's current attempt without
    a stored partial signature. -/
theorem timeout_penalises_only_idle (s : State) (sid att : Nat) (nowNs : Int) (idle : List Nat) :
    ∀ e ∈ (onTimeout s sid att nowNs idle).penalised, e ∈ s.penalised ∨ (e.1 = sid ∧ e.2.1 = att ∧ e.2.2 ∈ idle) := by
  induction idle generalizing s with
  | nil => exact fun e he => .inl he
  | cons m rest ih =>
    intro e he
    rcases ih _ e he with h | ⟨h1, h2, h3⟩
    · split at h
      · rcases List.mem_append.mp h with h' | h'
        · exact .inl h'
        · cases List.mem_singleton.mp h'; exact .inr ⟨rfl, rfl, List.mem_cons_self ..⟩
      · exact .inl h
    · exact .inr ⟨h1, h2, List.mem_cons_of_mem _ h3⟩

/-- a member that is already inactive is not penalised again, an active idle one is deactivated in
    both modules -/
theorem timeout_deactivates_idle (s : State) (sid att : Nat) (nowNs : Int) (m : Nat) (h : s.bActive m = true) :
    (onTimeout s sid att nowNs [m]).bActive m = false ∧ (onTimeout s sid att nowNs [m]).tssActive m = false ∧
    (onTimeout s sid att nowNs [m]).bSince m = nowNs := by
  simp [onTimeout, h]

/-- PROPERTY (failed retry ⇒ FALLEN, owner notified once): when a new round cannot be started the
    signing becomes FALLEN and the failure callback runs exactly once for it. -/
theorem failed_retry_falls (s : State) (sid : Nat) (c : List Nat) (height : Int) (sg : Sig)
    (hs : s.signings sid = some sg) (hf : (initiate s sid c height).2 ≠ Err.ok) :
    (retryOne s sid c height).signings sid = some { sg with status := stFallen } ∧
    (retryOne s sid c height).failedLog = s.failedLog ++ [sid] ∧
    (retryOne s sid c height).mapping sid = 0 := by
  rcases retryOne_cases s sid c height with ⟨-, -, -, -, hok, -⟩ | ⟨sg', hs', -, e⟩ | ⟨hn, -⟩
  · exact absurd hok hf
  · cases Option.some.inj (hs.symm.trans hs')
    rw [e]; exact ⟨if_pos rfl, rfl, if_pos rfl⟩
  · rw [hs] at hn; cases hn

/-- the sampler's contract used here (C09): committees have distinct members -/
def OpOk : C05.Op → Prop
  | .request _ _ _ c _ => c.Nodup
  | .endBlock c _ _ => ∀ i, (c i).Nodup
  | _ => True

theorem step_hinv (s : State) (op : C05.Op) (h : HInv s) (ok : OpOk op) : HInv (C05.apply s op) := by
  cases op with
  | request a b c d e => exact request_hinv s a b c d e ok h
  | submit a b c d => exact submit_hinv s a b c d h
  | endBlock c ht n => exact endBlock_hinv s c ht n ok h
  | _ => exact hinv_of_view h (C05.apply_frame hview (fun _ _ => rfl) s)

/-- the invariant holds after EVERY history of DE submissions, resets, requests, signature submissions, end-blocks
    (with arbitrary heights, times and committees), activations and parameter changes -/
theorem history_hinv (ops : List C05.Op) (s : State) (h : HInv s) (ok : ∀ op ∈ ops, OpOk op) : HInv (ops.foldl C05.apply s) :=
  List.foldlRecOn ops C05.apply h fun s h op hop => step_hinv s op h (ok op hop)

/-- the operations other than a request and an end-block -/
def Quiet : C05.Op → Prop
  | .request .. => False
  | .endBlock .. => False
  | _ => True

/-- a quiet operation writes no signing record, no attempt record and not the FIFO -/
theorem quiet_frame (s : State) (op : C05.Op) (hq : Quiet op) :
    (C05.apply s op).signings = s.signings ∧ (C05.apply s op).attempts = s.attempts ∧ (C05.apply s op).expirations = s.expirations := by
  cases op with
  | request a b c d e => exact hq.elim
  | endBlock c ht n => exact hq.elim
  | _ =>
    exact ⟨C05.apply_frame (·.signings) (fun _ _ => rfl) s, C05.apply_frame (·.attempts) (fun _ _ => rfl) s,
      C05.apply_frame (·.expirations) (fun _ _ => rfl) s⟩

theorem quiet_ok : ∀ {op : C05.Op}, Quiet op → OpOk op
  | .request .., h | .endBlock .., h => h.elim
  | .submitDE .., _ | .resetDE .., _ | .submit .., _ | .activate .., _ | .setParams .., _ => trivial

/-- what one operation can do to an existing signing record: nothing; SUCCESS by aggregation of a pending (complete)
    set; or, for a WAITING signing, a retry (attempt+1, WAITING) or FALLEN -/
theorem step_signing (s : State) (op : C05.Op) (h : HInv s) (sid : Nat) (sg : Sig) (hs : s.signings sid = some sg) :
    ∃ sg', (C05.apply s op).signings sid = some sg' ∧
      (sg' = sg ∨
       (sg.status = stWaiting ∧ sid ∈ s.pending ∧ (∃ c ht n, op = .endBlock c ht n) ∧ sg' = { sg with status := stSuccess }) ∨
       (sg.status = stWaiting ∧ Retried sg sg')) := by
  by_cases hq : Quiet op
  · exact ⟨sg, (congrFun (quiet_frame s op hq).1 sid).trans hs, .inl rfl⟩
  · cases op with
    | request a b c d e =>
      have := h.le_count hs
      exact ⟨sg, (request_signings_other s a b c d e sid (by omega)).trans hs, .inl rfl⟩
    | endBlock c ht n =>
      obtain ⟨sg', q1, q2⟩ := endBlock_signing s c ht n h sid sg hs
      refine ⟨sg', q1, ?_⟩
      rcases q2 with ⟨a, b, e⟩ | ⟨_, _, e⟩ | ⟨_, _, b, e⟩
      · exact .inr (.inl ⟨b, a, ⟨c, ht, n, rfl⟩, e⟩)
      · exact .inl e
      · exact .inr (.inr ⟨b, e⟩)
    | _ => exact absurd trivial hq

/-- PROPERTY (the status never leaves SUCCESS or FALLEN; the record is frozen): over EVERY history -/
theorem final_status_absorbing (ops : List C05.Op) (s : State) (h : HInv s) (ok : ∀ op ∈ ops, OpOk op) (sid : Nat) (sg : Sig)
    (hs : s.signings sid = some sg) (hf : sg.status ≠ stWaiting) : (ops.foldl C05.apply s).signings sid = some sg :=
  (List.foldlRecOn (motive := fun s' => HInv s' ∧ s'.signings sid = some sg) ops C05.apply ⟨h, hs⟩ fun s' h' op hop => by
    obtain ⟨sg', q1, q2⟩ := step_signing s' op h'.1 sid sg h'.2
    cases q2.resolve_right fun q => q.elim (fun w => hf w.1) fun w => hf w.1
    exact ⟨step_hinv s' op h'.1 (ok op hop), q1⟩).2

/-- PROPERTY (the attempt number only grows, by at most one per operation): over EVERY history -/
theorem attempt_only_grows (ops : List C05.Op) (s : State) (h : HInv s) (ok : ∀ op ∈ ops, OpOk op) (sid : Nat) (sg : Sig)
    (hs : s.signings sid = some sg) :
    ∃ sg', (ops.foldl C05.apply s).signings sid = some sg' ∧ sg.attempt ≤ sg'.attempt ∧ sg'.attempt ≤ sg.attempt + ops.length := by
  induction ops generalizing s sg with
  | nil => exact ⟨sg, hs, Nat.le_refl _, Nat.le_refl _⟩
  | cons op rest ih =>
    obtain ⟨sg1, q1, q2⟩ := step_signing s op h sid sg hs
    obtain ⟨sg', r1, r2, r3⟩ := ih _ (step_hinv s op h (ok op (List.mem_cons_self ..))) (fun o ho => ok o (List.mem_cons_of_mem _ ho)) sg1 q1
    have : sg.attempt ≤ sg1.attempt ∧ sg1.attempt ≤ sg.attempt + 1 := by
      rcases q2 with e | ⟨_, _, _, e⟩ | ⟨_, e⟩
      · subst e; omega
      · subst e; simp
      · rcases e with ⟨e, _⟩ | ⟨e, _⟩ <;> omega
    refine ⟨sg', r1, by omega, by simp only [List.length_cons]; omega⟩

/-- PROPERTY (SUCCESS only when every assigned member of the attempt has submitted): a WAITING signing becomes SUCCESS
    only in an end-block, and only if it was pending, i.e. its current attempt had a complete partial-signature set from
    distinct assigned members -/
theorem success_only_by_aggregating_a_complete_set (s : State) (op : C05.Op) (h : HInv s) (sid : Nat) (sg sg' : Sig)
    (hs : s.signings sid = some sg) (hw : sg.status = stWaiting) (hs' : (C05.apply s op).signings sid = some sg') (hsucc : sg'.status = stSuccess) :
    (∃ c ht n, op = .endBlock c ht n) ∧ ∃ atm, s.attempts sid sg.attempt = some atm ∧ (s.partials sid sg.attempt).length = atm.assigned.length ∧
      (∀ m ∈ s.partials sid sg.attempt, m ∈ ids atm) ∧ (s.partials sid sg.attempt).Nodup := by
  obtain ⟨sg1, q1, q2⟩ := step_signing s op h sid sg hs
  rw [hs'] at q1; cases q1
  rcases q2 with e | ⟨_, hp, hop, _⟩ | ⟨_, e⟩
  · subst e; rw [hw] at hsucc; simp [stWaiting, stSuccess] at hsucc
  · obtain ⟨sg0, atm, r1, _, r3, r4⟩ := h.h3 sid hp
    rw [hs] at r1; cases r1
    obtain ⟨p1, p2, _⟩ := h.p1 sid sg.attempt atm r3
    exact ⟨hop, atm, r3, r4, p1, p2⟩
  · rcases e with ⟨_, e⟩ | ⟨_, e⟩ <;> rw [e] at hsucc <;> simp [stWaiting, stSuccess, stFallen] at hsucc

/-- PROPERTY (all assigned members submitted ⇒ SUCCESS at the next end-block): in every reachable state -/
theorem complete_set_succeeds_at_next_endblock (s : State) (h : HInv s) (sid : Nat) (sg : Sig) (atm : Attempt)
    (hs : s.signings sid = some sg) (hw : sg.status = stWaiting) (ha : s.attempts sid sg.attempt = some atm) (hne : atm.assigned ≠ [])
    (hfull : (s.partials sid sg.attempt).length = atm.assigned.length) (c : Nat → List Nat) (ht n : Int) :
    (endBlock s c ht n).signings sid = some { sg with status := stSuccess } := by
  have hp := h.h6 sid sg atm hs hw ha hne hfull
  obtain ⟨sg', q1, q2⟩ := endBlock_signing s c ht n h sid sg hs
  rcases q2 with ⟨_, _, e⟩ | ⟨np, _⟩ | ⟨np, _⟩
  · rw [q1, e]
  · exact absurd hp np
  · exact absurd hp np

/-- PROPERTY (an attempt is never timed out before its signing period has passed, and is timed out exactly then): in the
    end-block of ANY reachable state the expiry pass processes a prefix of the FIFO all of whose attempts have
    `expiredHeight ≤ height`, and stops at the end or at the first attempt that has not expired -/
theorem expiry_pass_processes_exactly_the_expired_prefix (s : State) (h : HInv s) (height nowNs : Int) :
    let s2 : State := { aggregateAll s s.pending with pending := [] }
    consumed height nowNs s2.expirations s2 ≤ s2.expirations.length ∧
    (∀ i a, (i, a) ∈ s2.expirations.take (consumed height nowNs s2.expirations s2) → ∃ atm, s2.attempts i a = some atm ∧ atm.expiredHeight ≤ height) ∧
    (∀ i a, s2.expirations[consumed height nowNs s2.expirations s2]? = some (i, a) → ∃ atm, s2.attempts i a = some atm ∧ atm.expiredHeight > height) :=
  expire_consumes_exactly_expired_prefix _ (aggregated_hinv s h) height nowNs

/-- … so with a FIFO ordered by expiry height (which holds while SigningPeriod is unchanged and block heights do not
    decrease) every attempt whose period has passed is processed in this very block -/
theorem every_expired_attempt_is_processed (s : State) (h : HInv s) (height nowNs : Int)
    (hsorted : s.expirations.Pairwise (fun x y => ∀ ax ay, s.attempts x.1 x.2 = some ax → s.attempts y.1 y.2 = some ay → ax.expiredHeight ≤ ay.expiredHeight))
    (i a : Nat) (atm : Attempt) (hm : (i, a) ∈ s.expirations) (ha : s.attempts i a = some atm) (hexp : atm.expiredHeight ≤ height) :
    let s2 : State := { aggregateAll s s.pending with pending := [] }
    (i, a) ∈ s2.expirations.take (consumed height nowNs s2.expirations s2) := by
  obtain ⟨att, -, exp⟩ := aggd_keeps s
  exact all_expired_consumed (aggd s) (aggregated_hinv s h) height nowNs (att ▸ exp ▸ hsorted) i a atm (exp ▸ hm) (att ▸ ha) hexp

/-- the height of the last finished block after an operation -/
def nextH (H : Int) : C05.Op → Int
  | .endBlock _ h _ => h
  | _ => H

/-- a well-formed operation at block height `H` (the last finished block): requests carry the height of the block being
    built (at most `H + 1`) and a non-empty duplicate-free committee; the next end-block is that of height `H + 1` and its
    retry committees are non-empty and duplicate-free; parameter changes stay within `P` (signing period) and `M` (attempts) -/
def OpWF (P M : Nat) (H : Int) : C05.Op → Prop
  | .request _ _ _ c h => c.Nodup ∧ c ≠ [] ∧ h ≤ H + 1
  | .endBlock c h _ => h = H + 1 ∧ (∀ i, (c i).Nodup) ∧ (∀ i, c i ≠ [])
  | .setParams p a _ _ => p ≤ P ∧ a ≤ M
  | _ => True

def RunWF (P M : Nat) : Int → List C05.Op → Prop
  | _, [] => True
  | H, op :: rest => OpWF P M H op ∧ RunWF P M (nextH H op) rest

def finalH (H : Int) (ops : List C05.Op) : Int := ops.foldl nextH H

/-- the period and the attempt limit after a quiet operation -/
theorem quiet_params {P M : Nat} {s : State} {H : Int} (g : G P M s H) (op : C05.Op) (hq : Quiet op) (wf : OpWF P M H op) :
    (C05.apply s op).signingPeriod ≤ P ∧ (C05.apply s op).maxAttempt ≤ M := by
  cases op with
  | request a b c d e => exact hq.elim
  | endBlock c ht n => exact hq.elim
  | setParams p a d f => exact wf
  | _ =>
    rw [C05.apply_frame (·.signingPeriod) (fun _ _ => rfl) s, C05.apply_frame (·.maxAttempt) (fun _ _ => rfl) s]
    exact ⟨g.per, g.mx⟩

theorem quiet_nextH (H : Int) : ∀ {op : C05.Op}, Quiet op → nextH H op = H
  | .request .., h | .endBlock .., h => h.elim
  | .submitDE .., _ | .resetDE .., _ | .submit .., _ | .activate .., _ | .setParams .., _ => rfl

theorem step_G {P M : Nat} (s : State) (H : Int) (op : C05.Op) (g : G P M s H) (wf : OpWF P M H op) :
    G P M (C05.apply s op) (nextH H op) := by
  by_cases hq : Quiet op
  · obtain ⟨a, b, c⟩ := quiet_frame s op hq
    obtain ⟨d, e⟩ := quiet_params g op hq wf
    rw [quiet_nextH H hq]
    exact g.of_frame (step_hinv s op g.hinv (quiet_ok hq)) a b c d e
  · cases op with
    | request a b c d e => exact request_G g a b c d e wf.1 wf.2.1 wf.2.2
    | endBlock c ht n =>
      obtain ⟨rfl, hc, hcne⟩ := wf
      exact endBlock_G g c n hc hcne
    | _ => exact absurd trivial hq

theorem step_Prog {P M : Nat} {D : Int} {sid : Nat} (s : State) (H : Int) (op : C05.Op) (g : G P M s H) (hP : 1 ≤ P) (wf : OpWF P M H op)
    (hp : Prog P M D sid s H) : Prog P M D sid (C05.apply s op) (nextH H op) := by
  by_cases hq : Quiet op
  · obtain ⟨a, b, c⟩ := quiet_frame s op hq
    rw [quiet_nextH H hq]
    exact prog_of_frame hp a b c
  · cases op with
    | request a b c d e => exact request_prog g a b c d e wf.2.1 hp
    | endBlock c ht n =>
      obtain ⟨rfl, -, hcne⟩ := wf
      exact endBlock_prog g hP c n hcne hp
    | _ => exact absurd trivial hq

theorem run_G_Prog {P M : Nat} {D : Int} {sid : Nat} (hP : 1 ≤ P) (ops : List C05.Op) (s : State) (H : Int) (g : G P M s H)
    (wf : RunWF P M H ops) (hp : Prog P M D sid s H) :
    G P M (ops.foldl C05.apply s) (finalH H ops) ∧ Prog P M D sid (ops.foldl C05.apply s) (finalH H ops) := by
  induction ops generalizing s H with
  | nil => exact ⟨g, hp⟩
  | cons op rest ih =>
    exact ih (C05.apply s op) (nextH H op) (step_G s H op g wf.1) wf.2 (step_Prog s H op g hP wf.1 hp)

/-- PROPERTY (every signing terminates): take any state of a well-formed run at block height `H` and any signing in it,
    at attempt `a`.  After ANY well-formed continuation — more requests, submissions, nonce traffic, activations,
    parameter changes within `P`/`M`, end-blocks with any committees — that brings the chain to height
    `H + 1 + (M − a + 1)·P` or beyond, the signing is SUCCESS or FALLEN. -/
theorem every_signing_terminates {P M : Nat} (hP : 1 ≤ P) (s : State) (H : Int) (g : G P M s H) (sid : Nat) (sg : Sig)
    (hs : s.signings sid = some sg) (ops : List C05.Op) (wf : RunWF P M H ops)
    (hlong : H + 1 + (((M - sg.attempt : Nat) : Int) + 1) * (P : Int) ≤ finalH H ops) :
    ∃ sg', (ops.foldl C05.apply s).signings sid = some sg' ∧ (sg'.status = stSuccess ∨ sg'.status = stFallen) := by
  obtain ⟨g', p'⟩ := run_G_Prog hP ops s H g wf (prog_init g sg hs)
  exact prog_final g' p' hlong

/-! non-vacuity -/
def demo : State :=
  { members := [1, 2], threshold := 1, queues := fun m => if m = 1 then [0, 1] else if m = 2 then [2] else [], nextToken := 3,
    tssActive := fun _ => true, signings := fun i => if i = 1 then some ⟨1, 0⟩ else none, attempts := fun _ _ => none,
    partials := fun _ _ => [], expirations := [], pending := [], count := 1, signingPeriod := 2, maxAttempt := 2, maxDE := 3,
    bActive := fun _ => true, bSince := fun _ => 0, penalty := 0, mapping := fun _ => 0, bsigs := fun _ => none, bcount := 0,
    feePerSigner := fun _ => 0, escrow := fun _ => 0, bal := fun _ _ => 0, denoms := ["uband"],
    assignedLog := [], penalised := [], completedLog := [], failedLog := [] }
example : (initiate demo 1 [1] 10).2 = Err.ok := by decide
example : ((initiate demo 1 [1] 10).1.attempts 1 1).map (·.expiredHeight) = some 12 := by decide
example : (submit (initiate demo 1 [1] 10).1 1 1 true true).2 = Err.ok := by decide
example : (submit (initiate demo 1 [1] 10).1 1 2 true true).2 = Err.notAssigned := by decide

/-- the demo state (one WAITING signing, nothing scheduled yet) satisfies the invariant -/
theorem hinv_demo : HInv demo := by
  refine ⟨?_, ?_, ?_, ?_, ?_, ?_, ?_, ?_⟩ <;> simp [demo] <;> omega

/-- the chain state before any signing was requested (`demo` itself would not do for `G`: its WAITING record at attempt 0 has no
    scheduled attempt, against `Live.l1`) -/
def genesis : State := { demo with signings := fun _ => none, count := 0 }

/-- the run invariant holds at genesis (so every well-formed run from genesis is covered) -/
theorem g_genesis : G 2 2 genesis 0 := by
  refine ⟨⟨?_, ?_, ?_, ?_, ?_, ?_, ?_, ?_⟩, ⟨?_, ?_⟩, ?_, by decide, by decide, ?_⟩ <;> simp [genesis, demo]

/-- non-vacuity of `every_signing_terminates`: a request at genesis, then five blocks in which nobody signs; the hypotheses
    hold with P = M = 2, the deadline is height 5, and the signing has indeed FALLEN after two attempts -/
def idleRun : List C05.Op :=
  [.endBlock (fun _ => [2]) 1 0, .endBlock (fun _ => [1]) 2 0, .endBlock (fun _ => [1]) 3 0, .endBlock (fun _ => [1]) 4 0, .endBlock (fun _ => [1]) 5 0]

example : RunWF 2 2 0 idleRun ∧ (0 : Int) + 1 + (((2 - 1 : Nat) : Int) + 1) * ((2 : Nat) : Int) ≤ finalH 0 idleRun := by
  simp [idleRun, RunWF, OpWF, nextH, finalH]

example : ((C05.apply genesis (.request 100 true (fun _ => 0) [1] 1)).signings 1) = some ⟨stWaiting, 1⟩ ∧
    ((idleRun.foldl C05.apply (C05.apply genesis (.request 100 true (fun _ => 0) [1] 1))).signings 1) = some ⟨stFallen, 2⟩ := by decide

/-- a complete set is aggregated by the next end-block; an idle attempt times out at its expiry height and is retried -/
example : (endBlock (submit (initiate demo 1 [1] 10).1 1 1 true true).1 (fun _ => [2]) 11 0).signings 1 = some ⟨stSuccess, 1⟩ := by decide
example : (endBlock (initiate demo 1 [1] 10).1 (fun _ => [2]) 12 0).signings 1 = some ⟨stWaiting, 2⟩ := by decide
example : (endBlock (initiate demo 1 [1] 10).1 (fun _ => [2]) 11 0).signings 1 = some ⟨stWaiting, 1⟩ := by decide

end C10
