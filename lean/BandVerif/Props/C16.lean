/-
C16 — restake: locked power cannot be withdrawn; stakes are fully backed.
Model: Model/Restake.lean (staking hooks at their call sites, validators bonded at rate 1); lemmas: Lemmas/Restake.lean.
-/
import BandVerif.Lemmas.Restake
import BandVerif.Common.ListSum

namespace C16
open BandVerif.Restake

/-- the largest-lock condition the property speaks about: every lock of the account that sits in a
    still-active vault is covered by `power` -/
def Covers (s : State) (a : Acct) (power : Nat) : Prop :=
  ∀ k p, k ∈ s.lockKeys a → s.locks a k = some p → s.vaults k = some true → p ≤ power

/-- the index walk (`isValidPower`: reverse iteration over `be64(power) ‖ key`, first ACTIVE vault
    decides) is exactly `Covers` — in particular locks in deactivated vaults stop constraining. -/
theorem isValidPower_is_covers (s : State) (a : Acct) (power : Nat) :
    isValidPower s a power = true ↔ Covers s a power := by
  rw [isValidPower_iff]
  constructor
  · intro h k p hk hl hv
    exact h (p, k) ((mem_indexEntries s a p k).mpr ⟨hk, hl⟩) (by simp [isActiveVault, hv])
  · intro h e he hea
    obtain ⟨hk, hl⟩ := (mem_indexEntries s a e.1 e.2).mp he
    exact h e.2 e.1 hk hl (by simpa [isActiveVault] using hea)

theorem covers_transfer (s s' : State) (b : Acct) (p p' : Nat) (hk : s'.lockKeys b = s.lockKeys b) (hl : s'.locks b = s.locks b)
    (hv : ∀ k q, s.locks b k = some q → s'.vaults k = some true → s.vaults k = some true) (hp : p ≤ p') (h : Covers s b p) :
    Covers s' b p' := by
  intro k q hk' hl' hv'
  rw [hk] at hk'; rw [hl] at hl'
  exact Nat.le_trans (h k q hk' hl' (hv k q hl' hv')) hp

theorem covers_congr (s s' : State) (a : Acct) (p : Nat) (h1 : s'.lockKeys = s.lockKeys) (h2 : s'.locks = s.locks)
    (h3 : s'.vaults = s.vaults) (h : Covers s a p) : Covers s' a p :=
  covers_transfer s s' a p p (by rw [h1]) (by rw [h2]) (fun _ _ _ hv => h3 ▸ hv) (Nat.le_refl _) h

theorem unstakeOp_cases (s : State) (a : Acct) (d : String) (n : Nat) :
    BandVerif.Guarded .ok s (unstakeOp s a d n) fun s' => s' = payOut (subStake s a d n) a d n ∧ n ≤ s.stake a d ∧
      Covers (subStake s a d n) a (totalPower (subStake s a d n) a) := by
  unfold unstakeOp
  refine .ite nofun fun h1 => ?_
  split
  · rename_i h2; exact .accept ⟨rfl, by omega, (isValidPower_is_covers ..).mp h2⟩
  · exact .reject nofun

theorem delegateOp_cases (s : State) (a : Acct) (v : Val) (n : Nat) :
    BandVerif.Guarded .ok s (delegateOp s a v n) fun s' => s' = payBond (addDeleg s a v n) a n ∧
      Covers (addDeleg s a v n) a (totalPower (addDeleg s a v n) a) := by
  unfold delegateOp
  refine .ite nofun fun _ => ?_
  split
  · rename_i h; exact .accept ⟨rfl, (isValidPower_is_covers ..).mp h⟩
  · exact .reject nofun

theorem undelegateOp_cases (s : State) (a : Acct) (v : Val) (n : Nat) :
    BandVerif.Guarded .ok s (undelegateOp s a v n) fun s' => s' = subDeleg s a v n ∧ Covers s' a (totalPower s' a) := by
  unfold undelegateOp
  split
  · rename_i h; exact .accept ⟨rfl, (isValidPower_is_covers ..).mp h⟩
  · exact .reject nofun

theorem redelegateOp_cases (s : State) (a : Acct) (x y : Val) (n : Nat) :
    BandVerif.Guarded .ok s (redelegateOp s a x y n) fun s' => s' = addDeleg (subDeleg s a x n) a y n ∧ Covers s' a (totalPower s' a) := by
  unfold redelegateOp
  split
  · split
    · rename_i h; exact .accept ⟨rfl, (isValidPower_is_covers ..).mp h⟩
    · exact .reject nofun
  · exact .reject nofun

/-- PROPERTY: a successful unstake leaves the total power covering every active lock; a rejected one changes nothing. -/
theorem unstake_respects_locks (s : State) (a : Acct) (d : String) (amt : Nat) :
    ((unstakeOp s a d amt).2 = Err.ok → Covers (unstakeOp s a d amt).1 a (totalPower (unstakeOp s a d amt).1 a)) ∧
    ((unstakeOp s a d amt).2 ≠ Err.ok → (unstakeOp s a d amt).1 = s) :=
  ⟨fun h => let ⟨e, _, hc⟩ := (unstakeOp_cases s a d amt).1 h; e ▸ hc, (unstakeOp_cases s a d amt).2⟩

/-- PROPERTY: a successful undelegation (partial or full removal) leaves the total power covering every
    active lock; a rejected one changes nothing. -/
theorem undelegate_respects_locks (s : State) (a : Acct) (v : Val) (amt : Nat) :
    ((undelegateOp s a v amt).2 = Err.ok → Covers (undelegateOp s a v amt).1 a (totalPower (undelegateOp s a v amt).1 a)) ∧
    ((undelegateOp s a v amt).2 ≠ Err.ok → (undelegateOp s a v amt).1 = s) :=
  ⟨fun h => ((undelegateOp_cases s a v amt).1 h).2, (undelegateOp_cases s a v amt).2⟩

/-- PROPERTY: a successful redelegation leaves the total power covering every active lock (it is even
    checked on the intermediate state); a rejected one changes nothing. -/
theorem redelegate_respects_locks (s : State) (a : Acct) (src dst : Val) (amt : Nat) :
    ((redelegateOp s a src dst amt).2 = Err.ok →
        Covers (redelegateOp s a src dst amt).1 a (totalPower (redelegateOp s a src dst amt).1 a)) ∧
    ((redelegateOp s a src dst amt).2 ≠ Err.ok → (redelegateOp s a src dst amt).1 = s) :=
  ⟨fun h => ((redelegateOp_cases s a src dst amt).1 h).2, (redelegateOp_cases s a src dst amt).2⟩

/-- PROPERTY: locks can be set only up to the current total power (and below 2^64) and only in an active
    vault (created active on first use); a rejected SetLockedPower changes nothing. -/
theorem lock_bounded (s : State) (a : Acct) (k : String) (power : Int) :
    ((setLockOp s a k power).2 = Err.ok →
        0 ≤ power ∧ power < 18446744073709551616 ∧ power ≤ (totalPower s a : Int) ∧
        (setLockOp s a k power).1.vaults k = some true ∧ s.vaults k ≠ some false ∧
        (setLockOp s a k power).1.locks a k = some power.toNat) ∧
    ((setLockOp s a k power).2 ≠ Err.ok → (setLockOp s a k power).1 = s) :=
  ⟨fun h => let ⟨e, h0, h1, h2, hv⟩ := (setLockOp_cases s a k power).1 h
    e ▸ ⟨h0, h1, h2, if_pos rfl, hv, if_pos ⟨rfl, rfl⟩⟩, (setLockOp_cases s a k power).2⟩

/-- PROPERTY: deactivation makes the vault's locks stop constraining: after it, `Covers` ignores them. -/
theorem deactivated_stops_constraining (s : State) (k : String) (a : Acct) (power : Nat)
    (h : (deactivateOp s k).2 = Err.ok)
    (hc : ∀ k' p, k' ≠ k → k' ∈ s.lockKeys a → s.locks a k' = some p → s.vaults k' = some true → p ≤ power) :
    Covers (deactivateOp s k).1 a power := by
  rw [(deactivateOp_cases s k).1 h]
  intro k' p hk hl hv
  have hv : (if k' = k then some false else s.vaults k') = some true := hv
  split at hv
  · cases hv
  · rename_i ek; exact hc k' p ek hk hl hv

/-- PROPERTY (fully backed): Stake and Unstake move exactly the staked amount between the account and the
    module account, so `module balance − recorded stake` of the acting account's denom is unchanged and
    nobody else's stake is touched. -/
theorem stake_unstake_backed (s : State) (a : Acct) (d : String) (amt : Nat) :
    ((stakeOp s a d amt).2 = Err.ok →
        (stakeOp s a d amt).1.moduleBal d = s.moduleBal d + amt ∧ (stakeOp s a d amt).1.stake a d = s.stake a d + amt ∧
        (∀ b d', (b, d') ≠ (a, d) → (stakeOp s a d amt).1.stake b d' = s.stake b d') ∧
        (∀ d', d' ≠ d → (stakeOp s a d amt).1.moduleBal d' = s.moduleBal d')) ∧
    ((unstakeOp s a d amt).2 = Err.ok →
        amt ≤ s.stake a d ∧
        (unstakeOp s a d amt).1.moduleBal d = s.moduleBal d - amt ∧ (unstakeOp s a d amt).1.stake a d = s.stake a d - amt ∧
        (unstakeOp s a d amt).1.bal a d = s.bal a d + amt ∧
        (∀ b d', (b, d') ≠ (a, d) → (unstakeOp s a d amt).1.stake b d' = s.stake b d') ∧
        (∀ d', d' ≠ d → (unstakeOp s a d amt).1.moduleBal d' = s.moduleBal d')) := by
  have other : ∀ {b d'}, (b, d') ≠ (a, d) → ¬ (b = a ∧ d' = d) := fun hne ⟨e1, e2⟩ => hne (by rw [e1, e2])
  refine ⟨fun hok => ?_, fun hok => ?_⟩
  · rw [(stakeOp_cases s a d amt).1 hok]
    exact ⟨if_pos rfl, if_pos ⟨rfl, rfl⟩, fun _ _ hne => if_neg (other hne), fun _ hne => if_neg hne⟩
  · obtain ⟨e, hle, _⟩ := (unstakeOp_cases s a d amt).1 hok
    rw [e]
    exact ⟨hle, if_pos rfl, if_pos ⟨rfl, rfl⟩, if_pos ⟨rfl, rfl⟩, fun _ _ hne => if_neg (other hne), fun _ hne => if_neg hne⟩

inductive Op
  | stake (a : Acct) (d : String) (amt : Nat) | unstake (a : Acct) (d : String) (amt : Nat)
  | delegate (a : Acct) (v : Val) (amt : Nat) | undelegate (a : Acct) (v : Val) (amt : Nat)
  | redelegate (a : Acct) (src dst : Val) (amt : Nat) | setLock (a : Acct) (k : String) (p : Int)
  | deactivate (k : String) | setAllowed (l : List String)

def apply (s : State) : Op → State
  | .stake a d n => (stakeOp s a d n).1
  | .unstake a d n => (unstakeOp s a d n).1
  | .delegate a v n => (delegateOp s a v n).1
  | .undelegate a v n => (undelegateOp s a v n).1
  | .redelegate a x y n => (redelegateOp s a x y n).1
  | .setLock a k p => (setLockOp s a k p).1
  | .deactivate k => (deactivateOp s k).1
  | .setAllowed l => setAllowedOp s l

/-- only `setLock` (to active) and `deactivate` write the vault store, and neither writes "active" over "inactive" -/
theorem step_keeps_inactive (s : State) (op : Op) (k : String) (h : s.vaults k = some false) :
    (apply s op).vaults k = some false := by
  cases op with
  | stake a d n => exact (stakeOp_cases s a d n).inv (P := (·.vaults k = _)) h fun _ e => e ▸ h
  | unstake a d n => exact (unstakeOp_cases s a d n).inv (P := (·.vaults k = _)) h fun _ e => e.1 ▸ h
  | delegate a v n => exact (delegateOp_cases s a v n).inv (P := (·.vaults k = _)) h fun _ e => e.1 ▸ h
  | undelegate a v n => exact (undelegateOp_cases s a v n).inv (P := (·.vaults k = _)) h fun _ e => e.1 ▸ h
  | redelegate a x y n => exact (redelegateOp_cases s a x y n).inv (P := (·.vaults k = _)) h fun _ e => e.1 ▸ h
  | setAllowed l => exact h
  | setLock a k' p =>
    refine (setLockOp_cases s a k' p).inv (P := (·.vaults k = _)) h fun _ ⟨e, _, _, _, hv⟩ => e ▸ ?_
    exact (if_neg fun ek : k = k' => hv (ek ▸ h)).trans h
  | deactivate k' =>
    refine (deactivateOp_cases s k').inv (P := (·.vaults k = _)) h fun _ e => e ▸ ?_
    show (if k = k' then some false else s.vaults k) = some false
    split
    · rfl
    · exact h

/-- PROPERTY: a deactivated vault can never be reactivated — over every history of operations. -/
theorem deactivated_never_reactivated (ops : List Op) (s : State) (k : String) (h : s.vaults k = some false) :
    (ops.foldl apply s).vaults k = some false :=
  List.foldlRecOn ops apply h fun s hs op _ => step_keeps_inactive s op k hs

/-- every account's active locks are covered by its total power, and a lock entry's vault exists -/
structure LInv (s : State) : Prop where
  covered : ∀ a, Covers s a (totalPower s a)
  vault : ∀ a k p, s.locks a k = some p → (s.vaults k).isSome

theorem sum_map_le_of_le (l : List String) (f g : String → Nat) (h : ∀ d, f d ≤ g d) : (l.map f).sum ≤ (l.map g).sum :=
  BandVerif.sum_map_le_sum_map l f g fun d _ => h d

/-- operations of a history other than a change of the allowed denoms (a governance change of what counts as power) -/
def OpOk : Op → Prop
  | .setAllowed _ => False
  | _ => True

/-- The five money operations write only account `a`'s delegations and stakes (and balances, which `LInv` does not read):
    everybody else keeps locks and power, so only `a`'s own cover has to be shown. -/
theorem linv_of_one_account (s s' : State) (a : Acct) (h : LInv s) (hk : s'.lockKeys = s.lockKeys) (hl : s'.locks = s.locks)
    (hv : s'.vaults = s.vaults) (hal : s'.allowed = s.allowed) (hvl : s'.vals = s.vals)
    (hd : ∀ b, b ≠ a → s'.deleg b = s.deleg b) (hs : ∀ b, b ≠ a → s'.stake b = s.stake b)
    (ha : Covers s' a (totalPower s' a)) : LInv s' := by
  refine ⟨fun b => ?_, fun b k p hp => by rw [hv]; exact h.vault b k p (hl ▸ hp)⟩
  by_cases e : b = a
  · exact e ▸ ha
  · have : totalPower s' b = totalPower s b := by unfold totalPower delegated stakedPower; rw [hd b e, hs b e, hal, hvl]
    exact this ▸ covers_congr s s' b _ hk hl hv (h.covered b)

theorem step_linv (s : State) (op : Op) (h : LInv s) (ok : OpOk op) : LInv (apply s op) := by
  cases op with
  | setAllowed l => exact ok.elim
  | stake a d n =>
    refine (stakeOp_cases s a d n).inv h fun _ e => e ▸ ?_
    -- staking only adds power
    refine linv_of_one_account s _ a h rfl rfl rfl rfl rfl (fun _ _ => rfl) (fun b hb => funext fun _ => if_neg fun e => hb e.1) ?_
    refine covers_transfer s _ a _ _ rfl rfl (fun _ _ _ hv => hv) ?_ (h.covered a)
    refine Nat.add_le_add_left (sum_map_le_of_le _ _ _ fun d' => ?_) _
    show s.stake a d' ≤ if a = a ∧ d' = d then s.stake a d + n else s.stake a d'
    split
    · rename_i e; rw [e.2]; omega
    · exact Nat.le_refl _
  | unstake a d n =>
    exact (unstakeOp_cases s a d n).inv h fun _ ⟨e, _, hc⟩ => e ▸
      linv_of_one_account s _ a h rfl rfl rfl rfl rfl (fun _ _ => rfl) (fun b hb => funext fun _ => if_neg fun e => hb e.1) hc
  | delegate a v n =>
    exact (delegateOp_cases s a v n).inv h fun _ ⟨e, hc⟩ => e ▸
      linv_of_one_account s _ a h rfl rfl rfl rfl rfl (fun b hb => funext fun _ => if_neg fun e => hb e.1) (fun _ _ => rfl) hc
  | undelegate a v n =>
    exact (undelegateOp_cases s a v n).inv h fun _ ⟨e, hc⟩ => by
      subst e
      exact linv_of_one_account s _ a h rfl rfl rfl rfl rfl (fun b hb => funext fun _ => if_neg fun e => hb e.1) (fun _ _ => rfl) hc
  | redelegate a x y n =>
    exact (redelegateOp_cases s a x y n).inv h fun _ ⟨e, hc⟩ => by
      subst e
      exact linv_of_one_account s _ a h rfl rfl rfl rfl rfl
        (fun b hb => funext fun _ => (if_neg fun e => hb e.1).trans (if_neg fun e => hb e.1)) (fun _ _ => rfl) hc
  | deactivate k =>
    refine (deactivateOp_cases s k).inv h fun _ e => e ▸ ?_
    -- fewer active vaults: fewer locks to cover
    refine ⟨fun a => covers_transfer s _ a _ _ rfl rfl (fun k' _ _ hv => ?_) (Nat.le_refl _) (h.covered a), fun a k' p hl => ?_⟩
    · dsimp only at hv; split at hv
      · cases hv
      · exact hv
    · dsimp only; split
      · rfl
      · exact h.vault a k' p hl
  | setLock a k pw =>
    refine (setLockOp_cases s a k pw).inv h fun _ ⟨e, h0, _, hle, hv⟩ => e ▸ ?_
    -- the vault of `k` was active already or had no lock (`h.vault`): no old lock starts to constrain; the new one is bounded
    refine ⟨fun b k' q hk' hl' hv' => ?_, fun b k' q hl' => ?_⟩
    · show q ≤ totalPower s b
      dsimp only at hk' hl' hv'
      by_cases eb : b = a ∧ k' = k
      · obtain ⟨rfl, rfl⟩ := eb
        rw [if_pos ⟨rfl, rfl⟩] at hl'; cases hl'; omega
      · rw [if_neg eb] at hl'
        have hk'' : k' ∈ s.lockKeys b := by
          split at hk'
          · rename_i e; subst e
            exact ((mem_insertKey _ _ _).mp hk').resolve_right fun ek => eb ⟨rfl, ek⟩
          · exact hk'
        refine h.covered b k' q hk'' hl' ?_
        split at hv'
        · rename_i ek; subst ek
          have := h.vault b k' q hl'
          cases hs : s.vaults k' with
          | none => rw [hs] at this; cases this
          | some c => cases c with
            | true => rfl
            | false => exact absurd hs hv
        · exact hv'
    · dsimp only at hl' ⊢
      split
      · rfl
      · rename_i ek
        rw [if_neg fun e => ek e.2] at hl'; exact h.vault b k' q hl'

/-- PROPERTY (locked power can never be withdrawn, over EVERY history): after any sequence of stakes, unstakes, delegations,
    undelegations, redelegations, lock changes and vault deactivations — accepted or rejected — every account's total power
    (bonded delegations + restaked allowed coins) still covers each of its locks on an active vault -/
theorem locks_always_covered (ops : List Op) (s : State) (h : LInv s) (ok : ∀ op ∈ ops, OpOk op) : LInv (ops.foldl apply s) :=
  List.foldlRecOn ops apply h fun s hs op hop => step_linv s op hs (ok op hop)

/-! non-vacuity -/
def demo : State :=
  { deleg := fun a v => if a = 0 ∧ v = 0 then 10 else 0, stake := fun a d => if a = 0 ∧ d = "uband" then 5 else 0,
    locks := fun a k => if a = 0 ∧ k = "feeds" then some 12 else none, lockKeys := fun a => if a = 0 then ["feeds"] else [],
    vaults := fun k => if k = "feeds" then some true else none, allowed := ["uband"], bal := fun _ _ => 0,
    moduleBal := fun d => if d = "uband" then 5 else 0, vals := [0, 1], denoms := ["uband"] }
example : isValidPower demo 0 12 = true ∧ isValidPower demo 0 11 = false := by
  simp [isValidPower, indexEntries, demo, firstActive, isActiveVault]
example : totalPower (subStake demo 0 "uband" 3) 0 = 12 ∧ totalPower (subStake demo 0 "uband" 4) 0 = 11 := by decide
example : (unstakeOp demo 0 "uband" 6).2 = Err.stakeNotEnough := by decide
example : (setLockOp demo 0 "feeds" 16).2 = Err.powerNotEnough := by decide
example : (setLockOp demo 0 "feeds" 15).2 = Err.ok := by decide
example : (deactivateOp demo "feeds").2 = Err.ok := by decide
/-- the demo state satisfies the history invariant (total power 15 covers the active lock of 12) -/
example : LInv demo := by
  refine ⟨?_, ?_⟩
  · intro a k p hk hl hv
    by_cases e : a = 0 ∧ k = "feeds"
    · obtain ⟨rfl, rfl⟩ := e
      simp [demo] at hl; subst hl
      simp [totalPower, delegated, stakedPower, demo]
    · simp [demo, e] at hl
  · intro a k p hl
    by_cases e : a = 0 ∧ k = "feeds"
    · obtain ⟨rfl, rfl⟩ := e; simp [demo]
    · simp [demo, e] at hl

end C16
