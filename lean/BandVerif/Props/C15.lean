/-
C15 — validators are deactivated only for genuine misses; reactivation only after the penalty.
Model: Model/ValidatorStatus.lean; lemmas: Lemmas/ValidatorStatus.lean. Source tie: Generated/Status.lean (CheckMissReport
translated statement by statement; Activate / MissReport guards) — `generated_*` theorems below.
The last part is about the price-submission handler (Model/FeedsSubmit.lean, Lemmas/FeedsSubmit.lean), whose stored
timestamps are what miss detection reads.
-/
import BandVerif.Lemmas.ValidatorStatus
import BandVerif.Common.ListFacts
import BandVerif.Lemmas.FeedsSubmit
import BandVerif.Model.FeedsSubmitSrc

namespace C15
open BandVerif BandVerif.VStatus

/-- TIE TO SOURCE: the guards read from oracle Keeper.Activate / MissReport are the model's. -/
theorem generated_guards_match :
    Generated.Status.tooSoon = tooSoon ∧ Generated.Status.missApplies = missApplies := ⟨rfl, rfl⟩

theorem add_ok (a b : Int) (ha : 0 ≤ a) (ha' : a < 4611686018427387904) (hb : 0 ≤ b) (hb' : b < 4611686018427387904) :
    i64.add a b = a + b := by unfold i64.add i64.wrap; omega

theorem div3_ok (a : Int) (ha : 0 ≤ a) (ha' : a < 4611686018427387904) :
    i64.div a 3 = a / 3 := by
  unfold i64.div
  rw [Int.tdiv_eq_ediv_of_nonneg ha]
  unfold i64.wrap; omega

/-- TIE TO SOURCE: the statement-by-statement translation of feeds `CheckMissReport` (int64
    arithmetic) equals the specification form for all inputs in `[0, 2^62)` (Unix seconds, heights,
    parameters), i.e. whenever no int64 addition wraps. -/
theorem generated_checkMissReport_eq (interval lastUpd lastUpdBlock : Int) (hasPrice : Bool)
    (priceTs priceBlock since blockTime blockHeight grace : Int)
    (h : ∀ x ∈ [interval, lastUpd, lastUpdBlock, priceTs, priceBlock, since, grace], 0 ≤ x ∧ x < 4611686018427387904) :
    Generated.Status.checkMissReport interval lastUpd lastUpdBlock hasPrice priceTs priceBlock since blockTime blockHeight grace
      = checkMiss interval lastUpd lastUpdBlock hasPrice priceTs priceBlock since blockTime blockHeight grace := by
  simp only [List.forall_mem_cons] at h
  obtain ⟨hi, hl, hlb, hpt, hpb, hs, hg, -⟩ := h
  have hg3 : 0 ≤ grace / 3 ∧ grace / 3 < 4611686018427387904 := by omega
  have hi3 : 0 ≤ interval / 3 ∧ interval / 3 < 4611686018427387904 := by omega
  unfold Generated.Status.checkMissReport checkMiss maxGuaranteeBlockTime
  simp only [div3_ok grace hg.1 hg.2, div3_ok interval hi.1 hi.2,
    add_ok lastUpd grace hl.1 hl.2 hg.1 hg.2, add_ok since grace hs.1 hs.2 hg.1 hg.2,
    add_ok priceTs interval hpt.1 hpt.2 hi.1 hi.2, add_ok lastUpdBlock (grace / 3) hlb.1 hlb.2 hg3.1 hg3.2,
    add_ok priceBlock (interval / 3) hpb.1 hpb.2 hi3.1 hi3.2]
  -- the translated `if b > a then b else a` is `max a b`; with a price the two sides are then the same term
  have mx : ∀ a b : Int, (if b > a then b else a) = max a b := fun a b => by omega
  simp only [mx]
  cases hasPrice
  · simp only [Bool.false_eq_true, if_false]; rw [decide_eq_decide]; omega
  · simp only [if_true]

/-- PROPERTY: re-activation only once the inactivity penalty has elapsed since the deactivation;
    a successful activation happens only from the inactive state and stamps `now`. -/
theorem reactivate_after_penalty (s : VS) (penalty now : Int) (h : (activate s penalty now).2 = ActErr.ok) :
    s.active = false ∧ (s.sinceZero = true ∨ s.since + penalty ≤ now) ∧
    (activate s penalty now).1 = ⟨true, false, now⟩ := (activate_cases s penalty now).1 h

theorem activate_rejected_unchanged (s : VS) (penalty now : Int) (h : (activate s penalty now).2 ≠ ActErr.ok) :
    (activate s penalty now).1 = s := (activate_cases s penalty now).2 h

/-- PROPERTY (oracle path): MissReport changes a status only if the validator was active with
    `Since` strictly before the request time; it then becomes inactive, stamped `now`. -/
theorem miss_genuine (s : VS) (requestTime now : Int) (h : missReport s requestTime now ≠ s) :
    s.active = true ∧ s.since < requestTime ∧ missReport s requestTime now = ⟨false, false, now⟩ := by
  rw [missReport_eq] at h ⊢
  split at h
  · rename_i hm; exact ⟨hm.1, hm.2, if_pos hm⟩
  · exact absurd rfl h

/-- A validator activated at or after the request time is never deactivated for it. -/
theorem active_after_request_safe (s : VS) (requestTime now : Int) (h : requestTime ≤ s.since) :
    missReport s requestTime now = s := by
  rw [missReport_eq, if_neg fun hm => by omega]

theorem miss_never_activates (s : VS) (requestTime now : Int) (h : s.active = false) :
    (missReport s requestTime now).active = false := by
  rw [missReport_eq]
  split
  · rfl
  · exact h

inductive Op
  | activate (penalty now : Int)
  | miss (requestTime now : Int)

def apply (s : VS) : Op → VS
  | .activate p n => (activate s p n).1
  | .miss r n => missReport s r n

theorem active_needs_activate (ops : List Op) :
    ∀ (s : VS), (ops.foldl apply s).active = true → s.active = true ∨ ∃ p n, Op.activate p n ∈ ops := fun s =>
  List.foldlRecOn ops apply (motive := fun s' => s'.active = true → s.active = true ∨ ∃ p n, Op.activate p n ∈ ops) .inl
    fun s' ih op hop h => by
      cases op with
      | activate p n => exact .inr ⟨p, n, hop⟩
      | miss r n =>
        -- a miss report does not activate: `s'` was active already
        refine ih ?_
        cases hs : s'.active with
        | true => rfl
        | false => rw [show (apply s' (.miss r n)).active = false from miss_never_activates s' r n hs] at h; cases h

/-- PROPERTY: a validator is oracle-active only after explicitly activating — over every history of
    status operations from the initial (inactive) state. -/
theorem inactive_until_activated (ops : List Op) (h : (ops.foldl apply VS.initial).active = true) :
    ∃ p n, Op.activate p n ∈ ops := by
  rcases active_needs_activate ops VS.initial h with h0 | h1
  · cases h0
  · exact h1

/-- PROPERTY (feeds path): a miss is reported only when BOTH the clock bound and the height bound
    have passed every excuse: feed-list update + grace, activation + grace and last price + interval. -/
theorem feeds_miss_genuine (interval lastUpd lastUpdBlock : Int) (hasPrice : Bool)
    (priceTs priceBlock since blockTime blockHeight grace : Int)
    (h : checkMiss interval lastUpd lastUpdBlock hasPrice priceTs priceBlock since blockTime blockHeight grace = true) :
    blockTime > lastUpd + grace ∧ blockTime > since + grace ∧ (hasPrice = true → blockTime > priceTs + interval) ∧
    blockHeight > lastUpdBlock + grace / 3 ∧ (hasPrice = true → blockHeight > priceBlock + interval / 3) :=
  (checkMiss_iff ..).mp h

/-- …and conversely it IS reported once all of them have passed (the rule is exact). -/
theorem feeds_miss_exact (interval lastUpd lastUpdBlock : Int) (hasPrice : Bool)
    (priceTs priceBlock since blockTime blockHeight grace : Int)
    (h1 : blockTime > lastUpd + grace) (h2 : blockTime > since + grace) (h3 : hasPrice = true → blockTime > priceTs + interval)
    (h4 : blockHeight > lastUpdBlock + grace / 3) (h5 : hasPrice = true → blockHeight > priceBlock + interval / 3) :
    checkMiss interval lastUpd lastUpdBlock hasPrice priceTs priceBlock since blockTime blockHeight grace = true :=
  (checkMiss_iff ..).mpr ⟨h1, h2, h3, h4, h5⟩

/-- PROPERTY: a validator with a sufficiently recent price never misses. -/
theorem fresh_price_never_miss (interval lastUpd lastUpdBlock priceTs priceBlock since blockTime blockHeight grace : Int)
    (h : priceTs + interval ≥ blockTime) :
    checkMiss interval lastUpd lastUpdBlock true priceTs priceBlock since blockTime blockHeight grace = false :=
  Bool.eq_false_iff.mpr fun hm => by have := ((checkMiss_iff ..).mp hm).2.2.1 rfl; omega

/-- A validator activated in this very block (Since = block time) is safe on the feeds path: the
    grace clause holds for any grace ≥ 0, and MissReport with request time = now is a no-op. -/
theorem activated_this_block_safe (interval lastUpd lastUpdBlock : Int) (hasPrice : Bool)
    (priceTs priceBlock blockHeight grace nowNs : Int) (hg : 0 ≤ grace) :
    checkMiss interval lastUpd lastUpdBlock hasPrice priceTs priceBlock (unixOf nowNs) (unixOf nowNs) blockHeight grace = false ∧
    missReport ⟨true, false, nowNs⟩ nowNs nowNs = ⟨true, false, nowNs⟩ := by
  constructor
  · exact Bool.eq_false_iff.mpr fun hm => by have := ((checkMiss_iff ..).mp hm).2.1; omega
  · exact active_after_request_safe _ _ _ (Int.le_refl _)

/-- The sweep of one feed changes a validator's status only if that validator is in the sweep list
    with a genuine miss for this feed. -/
theorem sweepFeed_changes_only_missers (interval lastUpd lastUpdBlock nowNs height grace : Int) (fi : Nat)
    (vals : List ValView) (st : Nat → VS) (i : Nat)
    (h : sweepFeed interval lastUpd lastUpdBlock nowNs height grace fi vals st i ≠ st i) :
    ∃ v ∈ vals, v.idx = i ∧
      checkMiss interval lastUpd lastUpdBlock (v.prices.getD fi (false, 0, 0)).1 (v.prices.getD fi (false, 0, 0)).2.1
        (v.prices.getD fi (false, 0, 0)).2.2 (unixOf v.capturedSince) (unixOf nowNs) height grace = true := by
  rw [sweepFeed_eq_foldl] at h
  obtain ⟨v, hv, hm, e⟩ := foldl_write_ne _ (·.idx) _ vals st i h
  exact ⟨v, hv, e, hm⟩

/-! non-vacuity -/
example : (activate VS.initial 5 100).2 = ActErr.ok := by decide
example : (activate ⟨false, false, 100⟩ 5 104).2 = ActErr.tooSoon := by decide
example : (activate ⟨false, false, 100⟩ 5 105).2 = ActErr.ok := by decide
example : missReport ⟨true, false, 100⟩ 101 200 ≠ ⟨true, false, 100⟩ := by decide
example : checkMiss 60 0 0 true 100 10 0 161 31 30 = true := by decide
example : checkMiss 60 0 0 true 100 10 0 160 31 30 = false := by decide

/-! ## the price-submission handler (what "the validator's latest price" is) -/

/-- TIE TO SOURCE: the normalised text of feeds `SubmitSignalPrices`, `ValidateValidatorRequiredToSend` and
    `NewValidatorPrice` regenerated from /repo on this run is the reviewed text `Model/FeedsSubmit.lean` was written from. -/
theorem generated_submit_sources_match :
    Generated.Status.src_SubmitSignalPrices = ExpectedSrc.FeedsSubmit.src_SubmitSignalPrices ∧
    Generated.Status.src_ValidateValidatorRequiredToSend = ExpectedSrc.FeedsSubmit.src_ValidateValidatorRequiredToSend ∧
    Generated.Status.src_NewValidatorPrice = ExpectedSrc.FeedsSubmit.src_NewValidatorPrice := ⟨rfl, rfl, rfl⟩

/-- PROPERTY (the timestamp that miss detection and freshness read is the block's): every price of an accepted submission is
    stored with the time and height of the block that carried it, for EVERY previous list, feed order and message -/
theorem accepted_prices_are_stamped_with_block_time (feeds : List String) (prev : List FeedsSubmit.VP) (msg : List (String × Nat × Nat))
    (msgTs blockTime height cooldown disc : Int) (required : Bool) (out : List FeedsSubmit.VP)
    (h : FeedsSubmit.submit feeds prev msg msgTs blockTime height cooldown disc required = .ok out) :
    out.length = feeds.length ∧
    ∀ m ∈ msg, ∃ (i : Nat) (v : FeedsSubmit.VP), FeedsSubmit.idxOf feeds m.1 = some i ∧ out[i]? = some v ∧ v.sid = m.1 ∧ v.ts = blockTime ∧ v.bh = height := by
  obtain ⟨r1, _, r3⟩ := FeedsSubmit.applyMsg_spec feeds blockTime height cooldown msg _ out (FeedsSubmit.fill_length ..) (FeedsSubmit.submit_ok h)
  exact ⟨r1, r3⟩

/-- PROPERTY (a kept price stays with its signal when the feed list is re-ranked) -/
theorem stored_prices_follow_their_signal (feeds : List String) (prev : List FeedsSubmit.VP) (msg : List (String × Nat × Nat))
    (msgTs blockTime height cooldown disc : Int) (required : Bool) (out : List FeedsSubmit.VP)
    (h : FeedsSubmit.submit feeds prev msg msgTs blockTime height cooldown disc required = .ok out) (i : Nat) (v : FeedsSubmit.VP) (hv : out[i]? = some v) :
    v = FeedsSubmit.VP.zero ∨ (v ∈ prev ∧ feeds[i]? = some v.sid) ∨ (FeedsSubmit.Stamped blockTime height msg v ∧ feeds[i]? = some v.sid) := by
  obtain ⟨_, r2, _⟩ := FeedsSubmit.applyMsg_spec feeds blockTime height cooldown msg _ out (FeedsSubmit.fill_length ..) (FeedsSubmit.submit_ok h)
  exact (r2 i v hv).elim (fun h0 => (FeedsSubmit.fill_entries feeds prev i v h0).imp_right .inl) fun h1 => .inr (.inr h1)

/-- PROPERTY (the sender's clock only gates admission; it is never stored) -/
theorem sender_timestamp_is_not_stored (feeds : List String) (prev : List FeedsSubmit.VP) (msg : List (String × Nat × Nat))
    (t1 t2 blockTime height cooldown disc : Int) (required : Bool)
    (h1 : FeedsSubmit.absI (t1 - blockTime) ≤ disc) (h2 : FeedsSubmit.absI (t2 - blockTime) ≤ disc) :
    FeedsSubmit.submit feeds prev msg t1 blockTime height cooldown disc required = FeedsSubmit.submit feeds prev msg t2 blockTime height cooldown disc required :=
  FeedsSubmit.sender_timestamp_is_not_stored feeds prev msg t1 t2 blockTime height cooldown disc required h1 h2

end C15
