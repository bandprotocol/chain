/-
C06 — property theorems: the feed price is the quorum-gated, power- and recency-weighted median of
fresh AVAILABLE validator prices.  Model: Model/Median.lean, with its own constants and comparison
operators (scale, multipliers, sections, `halfReached`, `fitsSection`, `unsupportedWins`, `notReady`,
`fresh`); `generated_matches_model` ties them to those REGENERATED from the Go source in
Generated/Median.lean.  Lemmas: Lemmas/Median.lean.
-/
import BandVerif.Lemmas.Median

namespace C06
open BandVerif BandVerif.Median

/-- TIE TO SOURCE: the constants, enum values and comparison operators regenerated from
    x/feeds/types/median.go and x/feeds/keeper/keeper_price.go are the model's. -/
theorem generated_matches_model :
    Generated.Median.scale = scale ∧ Generated.Median.multipliers = multipliers ∧
    Generated.Median.sections = sections ∧
    Generated.Median.signal_price_status_unspecified = signal_price_status_unspecified ∧
    Generated.Median.signal_price_status_unsupported = signal_price_status_unsupported ∧
    Generated.Median.signal_price_status_unavailable = signal_price_status_unavailable ∧
    Generated.Median.signal_price_status_available = signal_price_status_available ∧
    Generated.Median.price_status_unknown_signal_id = price_status_unknown_signal_id ∧
    Generated.Median.price_status_not_ready = price_status_not_ready ∧
    Generated.Median.price_status_available = price_status_available ∧
    Generated.Median.halfReached = halfReached ∧ Generated.Median.fitsSection = fitsSection ∧
    Generated.Median.unsupportedWins = unsupportedWins ∧ Generated.Median.notReady = notReady ∧
    Generated.Median.fresh = fresh :=
  ⟨rfl, rfl, rfl, rfl, rfl, rfl, rfl, rfl, rfl, rfl, rfl, rfl, rfl, rfl, rfl⟩

-- `T`, `A`, `U`: total / available / unsupported reporting power of a list of entries
def T (l : List Info) : Int := (l.map (·.power)).sum
def A (l : List Info) : Int := sumIf l isAvail
def U (l : List Info) : Int := sumIf l isUnsup

/-- The median exists exactly when some AVAILABLE entry exists. -/
theorem median_total (l : List Info) (hp : ∀ i ∈ l, 0 ≤ i.power) :
    (∃ p, medianValidatorPriceInfos l = some p) ↔ validOf l ≠ [] := by
  constructor
  · rintro ⟨p, h⟩ hv
    obtain ⟨i, hi, ha, _⟩ := median_mem l p h
    have : i ∈ validOf l := List.mem_filter.mpr ⟨hi, ha⟩
    rw [hv] at this; simp at this
  · intro hv
    unfold medianValidatorPriceInfos
    apply medianWeightedPrice_some _ _ (weightsOf_nonneg l hp)
    intro h
    have hl : (weightsOf l).length = (validOf l).length := by
      simpa using congrArg List.length (weightsOf_prices l)
    rw [h] at hl
    exact hv (List.length_eq_zero_iff.mp hl.symm)

/-- PROPERTY (status rule). UNKNOWN_SIGNAL_ID iff more than half of the reporting power says
    UNSUPPORTED; otherwise AVAILABLE — with the weighted median — exactly when there is reporting
    power, it reaches the quorum and at least half of it is AVAILABLE; NOT_READY otherwise. -/
theorem status_rule (l : List Info) (q : Int) (hp : ∀ i ∈ l, 0 ≤ i.power) :
    (2 * U l > T l → calculatePrice l q = Res.price price_status_unknown_signal_id 0) ∧
    (¬ 2 * U l > T l → (T l = 0 ∨ T l < q ∨ 2 * A l < T l) →
        calculatePrice l q = Res.price price_status_not_ready 0) ∧
    (¬ 2 * U l > T l → ¬ (T l = 0 ∨ T l < q ∨ 2 * A l < T l) →
        ∃ p, calculatePrice l q = Res.price price_status_available p ∧ medianValidatorPriceInfos l = some p) := by
  have key := calculatePrice_eq l q
  refine ⟨fun h => ?_, fun h1 h2 => ?_, fun h1 h2 => ?_⟩
  · rw [key]; exact if_pos h
  · rw [key]; exact (if_neg h1).trans (if_pos h2)
  · have hA : 0 < A l := by
      have ht : 0 ≤ T l := sum_map_nonneg _ _ hp
      omega
    have hv : validOf l ≠ [] := by
      intro e; unfold A sumIf at hA; unfold validOf at e; rw [e] at hA; simp at hA
    obtain ⟨p, hm⟩ := (median_total l hp).mpr hv
    refine ⟨p, ?_, hm⟩
    rw [key]; exact (if_neg h1).trans ((if_neg h2).trans (by rw [hm]))

/-- Totality (feeds end-block never fails in CalculatePrice): no error result for any entries with
    non-negative powers and any quorum — including quorum 0 with no reporting power (finding F3). -/
theorem calculatePrice_total (l : List Info) (q : Int) (hp : ∀ i ∈ l, 0 ≤ i.power) :
    calculatePrice l q ≠ Res.error := by
  obtain ⟨h1, h2, h3⟩ := status_rule l q hp
  by_cases a : 2 * U l > T l
  · rw [h1 a]; intro h; cases h
  · by_cases b : (T l = 0 ∨ T l < q ∨ 2 * A l < T l)
    · rw [h2 a b]; intro h; cases h
    · obtain ⟨p, hp', _⟩ := h3 a b; rw [hp']; intro h; cases h

/-- PROPERTY (range). A published price is the price of some fresh AVAILABLE entry, hence lies
    between the smallest and the largest of them. -/
theorem median_in_range (l : List Info) (q : Int) (st p : Nat)
    (h : calculatePrice l q = Res.price st p) (hst : st = price_status_available) :
    (∃ i ∈ l, isAvail i = true ∧ i.price = p) ∧
    (∃ i ∈ l, isAvail i = true ∧ i.price ≤ p) ∧ (∃ i ∈ l, isAvail i = true ∧ p ≤ i.price) := by
  subst hst
  rw [calculatePrice_eq] at h
  split at h; · cases h
  split at h; · cases h
  split at h
  · rename_i hm
    cases h
    obtain ⟨i, hi, ha, rfl⟩ := median_mem l _ hm
    exact ⟨⟨i, hi, ha, rfl⟩, ⟨i, hi, ha, Nat.le_refl _⟩, ⟨i, hi, ha, Nat.le_refl _⟩⟩
  · cases h

/-- PROPERTY (weighted median). With `ws` the section-walk weights of the AVAILABLE entries, strictly
    less than half of the total weight is priced below the result and at least half at or below it. -/
theorem median_is_weighted_median (l : List Info) (p : Nat) (hp : ∀ i ∈ l, 0 ≤ i.power)
    (hpos : 0 < wTotal (weightsOf l)) (h : medianValidatorPriceInfos l = some p) :
    2 * wBelow (weightsOf l) p < wTotal (weightsOf l) ∧ 2 * wUpTo (weightsOf l) p ≥ wTotal (weightsOf l) :=
  medianWeightedPrice_is_median (weightsOf l) p (weightsOf_nonneg l hp) hpos h

/-- The section walk never takes a negative amount: every weight is non-negative, and weights are
    attached to the AVAILABLE entries' prices in (newest first, then larger power) order. -/
theorem weights_nonneg (l : List Info) (hp : ∀ i ∈ l, 0 ≤ i.power) :
    (∀ e ∈ weightsOf l, 0 ≤ e.1) ∧
    (weightsOf l).map (·.2) = ((validOf l).mergeSort timeOrder).map (·.price) :=
  ⟨weightsOf_nonneg l hp, weightsOf_prices l⟩

/-- PROPERTY (ignores stale prices and validators that are not bonded and oracle-active): the feed
    price is unchanged when every validator that is unbonded, inactive, without a price, with an
    UNSPECIFIED status or with a stale price is removed; it is a function of the ordered list only. -/
theorem ignores_stale_and_inactive (vals : List Val) (now interval quorum : Int) :
    feedPrice (vals.filter (counts now interval)) now interval quorum = feedPrice vals now interval quorum := by
  unfold feedPrice; rw [feedInfos_filter]

/-- freshness boundary: a price stamped exactly `now - interval` still counts, one second older does not -/
theorem freshness_boundary (st : Nat) (now interval : Int) (h : st ≠ signal_price_status_unspecified) :
    havePrice st (now - interval) now interval = true ∧ havePrice st (now - interval - 1) now interval = false := by
  unfold havePrice fresh
  constructor
  · simp [h]
  · simp; omega

/-! non-vacuity -/
example : calculatePrice [⟨3, 5, 100, 7⟩] 5 = Res.price price_status_available 100 := by
  simp [calculatePrice, pricesPowers, unsupportedWins, notReady, medianValidatorPriceInfos, weightsOf, validOf, isAvail,
    medianWeightedPrice, weigh, walk, firstHalf, halfReached, fitsSection, sections, multipliers, scale,
    signal_price_status_available]
example : calculatePrice [⟨1, 5, 100, 7⟩, ⟨3, 4, 100, 7⟩] 0 = Res.price price_status_unknown_signal_id 0 := by decide
example : calculatePrice [] 0 = Res.price price_status_not_ready 0 := by decide
example : calculatePrice [⟨2, 5, 100, 7⟩, ⟨3, 4, 100, 7⟩] 0 = Res.price price_status_not_ready 0 := by decide

end C06
