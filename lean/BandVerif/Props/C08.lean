/-
C08 — tunnel packets: produced exactly when due, gap-free sequence, atomic fee.
Model: Model/Tunnel.lean; lemmas: Lemmas/TunnelPrices.lean. The route (bandtss signing request / IBC send) is the input `routeOk`.
-/
import BandVerif.Model.Tunnel
import BandVerif.Lemmas.TunnelPrices
import BandVerif.Generated.Tunnel

namespace C08
open BandVerif BandVerif.Tunnel

/-- TIE to the source: the operators and step order regenerated from x/tunnel/keeper on this run are the
    ones the model uses. -/
theorem generated_matches_model :
    (∀ sa dev hard, Generated.Tunnel.hardBranch sa dev hard = (sa || decide (dev ≥ hard))) ∧
    (∀ dev soft, Generated.Tunnel.softBranch dev soft = decide (dev ≥ soft)) ∧
    (∀ o n, Generated.Tunnel.deviationBPS o n = deviationBPS o n) ∧
    (∀ t now, Generated.Tunnel.dueAll now t.interval t.lastInterval = dueAll t now) ∧
    Generated.Tunnel.producePacketOrder = ["emptyStops", "createPacket", "sendPacket", "updateLatest", "intervalOnlyIfSendAll"] ∧
    Generated.Tunnel.produceActiveShape = ["fundCheck", "deactivateIfUnderfunded", "cacheContext", "writeOnlyOnSuccess"] ∧
    Generated.Tunnel.sequenceStep = 1 :=
  ⟨fun _ _ _ => rfl, fun _ _ => rfl, fun _ _ => rfl, fun _ _ => rfl, rfl, rfl, rfl⟩

/-- which signals a packet carries and whether one is sent at all, stated without the accumulator -/
def included (latest feeds : List Price) (sendAll : Bool) (sd : SD) : Bool :=
  let old := ((lookupLast latest sd.sid).map (·.price)).getD 0
  let nw := ((lookupLast feeds sd.sid).map (·.price)).getD 0
  sendAll || decide (deviationBPS old nw ≥ sd.hard) || decide (deviationBPS old nw ≥ sd.soft)

def hardHit (latest feeds : List Price) (sd : SD) : Bool :=
  let old := ((lookupLast latest sd.sid).map (·.price)).getD 0
  let nw := ((lookupLast feeds sd.sid).map (·.price)).getD 0
  decide (deviationBPS old nw ≥ sd.hard)

def feedPrice (feeds : List Price) (now : Int) (sd : SD) : Price :=
  (lookupLast feeds sd.sid).getD { sid := sd.sid, status := statusNotInCurrentFeeds, price := 0, ts := now }

theorem genGo_spec (latest feeds : List Price) (now : Int) (sendAll : Bool) (sds : List SD) :
    (genGo latest feeds now sendAll sds).1 = (sds.filter (included latest feeds sendAll)).map (feedPrice feeds now) ∧
    (genGo latest feeds now sendAll sds).2 = ((sendAll && !sds.isEmpty) || sds.any (hardHit latest feeds)) := by
  induction sds with
  | nil => simp [genGo]
  | cons sd rest ih =>
    -- the deviation the loop computes is the one `included` and `hardHit` name: the looked-up feed price, or 0
    have hp : (feedPrice feeds now sd).price = ((lookupLast feeds sd.sid).map (·.price)).getD 0 := by
      unfold feedPrice; cases lookupLast feeds sd.sid <;> rfl
    have hinc : included latest feeds sendAll sd = (sendAll || hardHit latest feeds sd ||
        decide (deviationBPS (((lookupLast latest sd.sid).map (·.price)).getD 0) (feedPrice feeds now sd).price ≥ sd.soft)) := by
      rw [hp]; rfl
    have hhit : hardHit latest feeds sd =
        decide (deviationBPS (((lookupLast latest sd.sid).map (·.price)).getD 0) (feedPrice feeds now sd).price ≥ sd.hard) := by
      rw [hp]; rfl
    cases hg : genGo latest feeds now sendAll rest with
    | mk ps send =>
    rw [hg] at ih
    obtain ⟨rfl, rfl⟩ := ih
    simp only [genGo, hg, List.filter_cons, hinc, List.any_cons, List.isEmpty_cons, Bool.not_false, Bool.and_true]
    rw [show (lookupLast feeds sd.sid).getD _ = feedPrice feeds now sd from rfl, ← hhit]
    generalize hardHit latest feeds sd = hard
    -- what is left is the eight cases of (interval elapsed, hard hit, soft hit)
    by_cases soft : deviationBPS ((Option.map (fun x => x.price) (lookupLast latest sd.sid)).getD 0) (feedPrice feeds now sd).price ≥ sd.soft <;>
      cases sendAll <;> cases hard <;> simp [soft]

/-- PROPERTY (what a packet carries, and when one is due): the new price list is non-empty exactly when
    the interval has elapsed (sendAll) for a tunnel with signals or some signal moved by at least its HARD
    deviation; it then carries, in declaration order, all signals (interval) or exactly those at or beyond
    their soft or hard deviation — each with the current feed price (or NOT_IN_CURRENT_FEEDS, price 0). -/
theorem packet_content (sds : List SD) (latest feeds : List Price) (now : Int) (sendAll : Bool) :
    generateNewPrices sds latest feeds now sendAll =
      if (sendAll && !sds.isEmpty) || sds.any (hardHit latest feeds)
      then (sds.filter (included latest feeds sendAll)).map (feedPrice feeds now) else [] := by
  rw [← (genGo_spec latest feeds now sendAll sds).1, ← (genGo_spec latest feeds now sendAll sds).2]
  rfl

theorem interval_sends_all (sds : List SD) (latest feeds : List Price) (now : Int) (hne : sds ≠ []) :
    generateNewPrices sds latest feeds now true = sds.map (feedPrice feeds now) := by
  rw [packet_content]
  have : (true && !sds.isEmpty) = true := by cases sds <;> simp_all
  simp only [this, Bool.true_or, if_true]
  congr 1
  apply List.filter_eq_self.mpr
  simp [included]

theorem deviation_spec (old new : Nat) :
    (new = old → deviationBPS old new = 0) ∧ (new ≠ old → old = 0 → deviationBPS old new = maxInt64) ∧
    (new ≠ old → old ≠ 0 → new ≥ old → deviationBPS old new = (new - old) * 10000 / old) ∧
    (new ≠ old → old ≠ 0 → new < old → deviationBPS old new = (old - new) * 10000 / old) := by
  unfold deviationBPS
  refine ⟨fun h => by simp [h], fun h1 h2 => ?_, fun h1 h2 h3 => by simp [h1, h2, h3], fun h1 h2 h3 => ?_⟩
  · rw [if_neg h1, if_pos h2]
  · have : ¬ new ≥ old := by omega
    simp [h1, h2, this]

/-- stored packets of a tunnel carry exactly the sequence numbers 1..sequence -/
def GapFree (t : T) : Prop := t.packets.map (·.1) = (List.range t.sequence).map (· + 1)

/-- PROPERTY (gap-free, exact fee, once): a successful send takes the NEXT sequence number, stores exactly
    one more packet, debits the fee payer by exactly base fee + route fee and credits the base-fee total;
    every other tunnel is untouched. -/
theorem send_effect (s : State) (id : Nat) (t : T) (ps : List Price) (now : Int) (iv : Bool) (s' : State)
    (ht : s.tunnels id = some t) (hg : GapFree t) (h : sendWith s id t ps true now iv = some s') :
    ∃ t', s'.tunnels id = some t' ∧ t'.sequence = t.sequence + 1 ∧ GapFree t' ∧
      t'.packets = t.packets ++ [(t.sequence + 1, ps)] ∧ t'.latest = updatePrices t.latest ps ∧
      t'.lastInterval = (if iv then now else t.lastInterval) ∧ t'.isActive = t.isActive ∧
      s'.payerBal id = s.payerBal id - feeOf s t ∧ s'.totalBaseFees = s.totalBaseFees + s.baseFee ∧
      (∀ j, j ≠ id → s'.tunnels j = s.tunnels j ∧ s'.payerBal j = s.payerBal j) := by
  obtain ⟨_, rfl⟩ := sendWith_some h
  refine ⟨{ t with sequence := t.sequence + 1, packets := t.packets ++ [(t.sequence + 1, ps)],
                   latest := updatePrices t.latest ps, lastInterval := if iv then now else t.lastInterval },
    by simp, rfl, ?_, rfl, rfl, rfl, rfl, by simp, rfl, fun j hj => by simp [hj]⟩
  unfold GapFree at hg ⊢
  simp only [List.map_append, hg]
  rw [List.range_succ, List.map_append]; rfl

/-- PROPERTY (failure leaves no trace): if the route fails — any error, including a recovered panic —
    nothing of the attempt persists: no fee, no sequence number, no price update. -/
theorem failure_leaves_no_trace (s : State) (id : Nat) (feeds : List Price) (now : Int) (t : T)
    (ht : s.tunnels id = some t) (hf : s.payerBal id ≥ feeOf s t) :
    produceActive s id feeds now false = (s, false) := by
  rcases produceActive_cases ht feeds now false with ⟨hlt, _⟩ | ⟨_, ⟨_, e⟩ | ⟨_, hr, _⟩⟩
  · omega
  · exact e
  · cases hr

/-- PROPERTY (produced exactly when due): for a funded tunnel with a working route, a packet is produced
    iff the new price list is non-empty (see `packet_content` for when that is). -/
theorem produce_iff_due (s : State) (id : Nat) (feeds : List Price) (now : Int) (t : T)
    (ht : s.tunnels id = some t) (hf : s.payerBal id ≥ feeOf s t) :
    (produceActive s id feeds now true).2 = true ↔
      generateNewPrices t.sds t.latest feeds now (decide (now ≥ (t.interval : Int) + t.lastInterval)) ≠ [] := by
  show _ ↔ newPrices t feeds now ≠ []
  rcases produceActive_cases ht feeds now true with ⟨hlt, _⟩ | ⟨_, ⟨hno, e⟩ | ⟨hne, _, _, _, e⟩⟩
  · omega
  · rw [e]; exact ⟨nofun, fun h => absurd (hno.resolve_right nofun) h⟩
  · rw [e]; exact ⟨fun _ => hne, fun _ => rfl⟩

/-- PROPERTY: a tunnel whose fee payer cannot cover base + route fee is deactivated instead (flag and
    index), and nothing else changes. -/
theorem underfunded_deactivates (s : State) (id : Nat) (feeds : List Price) (now : Int) (rk : Bool) (t : T)
    (ht : s.tunnels id = some t) (hf : s.payerBal id < feeOf s t) :
    (produceActive s id feeds now rk).2 = false ∧
    (produceActive s id feeds now rk).1.tunnels id = some { t with isActive := false } ∧
    id ∉ (produceActive s id feeds now rk).1.activeIdx ∧
    (produceActive s id feeds now rk).1.payerBal = s.payerBal := by
  rcases produceActive_cases ht feeds now rk with ⟨_, e⟩ | ⟨hle, _⟩
  · rw [e]; exact ⟨rfl, if_pos rfl, by simp [deactivate], rfl⟩
  · omega

/-- PROPERTY: the end-blocker touches only the tunnels in the active index (inactive tunnels never
    produce packets). -/
theorem inactive_never_produces (feeds : List Price) (now : Int) (rk : Nat → Bool) (l : List Nat) (s : State) (id : Nat)
    (h : id ∉ l) : (endBlock feeds now rk l s).tunnels id = s.tunnels id ∧ (endBlock feeds now rk l s).payerBal id = s.payerBal id := by
  rw [endBlock_eq_foldl]
  refine List.foldlRecOn l _ (motive := fun s' : State => s'.tunnels id = s.tunnels id ∧ s'.payerBal id = s.payerBal id) ⟨rfl, rfl⟩
    fun s' ih x hx => ?_
  have hx : id ≠ x := fun e => h (e ▸ hx)
  -- whatever `produceActive` does for `x`, it writes the tunnel and the fee payer of `x` only
  cases ht : s'.tunnels x with
  | none => rw [produceActive_none ht]; exact ih
  | some t =>
    rcases produceActive_cases ht feeds now (rk x) with ⟨_, e⟩ | ⟨_, ⟨_, e⟩ | ⟨_, _, s'', hsw, e⟩⟩ <;> rw [e]
    · exact ⟨(if_neg hx).trans ih.1, ih.2⟩
    · exact ih
    · rw [(sendWith_some hsw).2]; exact ⟨(if_neg hx).trans ih.1, (if_neg hx).trans ih.2⟩

/-- MsgTriggerTunnel: only the creator, only an active and funded tunnel; a failing route changes nothing. -/
theorem trigger_gate (s : State) (id sender : Nat) (ps : List Price) (rk : Bool) (now : Int) :
    ((trigger s id sender ps rk now).2 = TErr.ok → ∃ t, s.tunnels id = some t ∧ t.creator = sender ∧ t.isActive = true ∧
        s.payerBal id ≥ feeOf s t ∧ rk = true) ∧
    ((trigger s id sender ps rk now).2 ≠ TErr.ok → (trigger s id sender ps rk now).1 = s) :=
  ⟨fun h => let ⟨t, a, b, c, d, e, _⟩ := (trigger_cases s id sender ps rk now).1 h; ⟨t, a, b, c, d, e⟩,
   (trigger_cases s id sender ps rk now).2⟩

def AllGapFree (s : State) : Prop := ∀ id t, s.tunnels id = some t → GapFree t

theorem sendWith_gapFree (s : State) (id : Nat) (t : T) (ps : List Price) (rk : Bool) (now : Int) (iv : Bool) (s' : State)
    (hs : AllGapFree s) (ht : s.tunnels id = some t) (h : sendWith s id t ps rk now iv = some s') : AllGapFree s' := by
  obtain ⟨rfl, -⟩ := sendWith_some h
  -- of the ten facts only: the tunnel at `id`, that it is gap-free, and that the others are untouched
  obtain ⟨t', htun, -, hgap, -, -, -, -, -, -, hothers⟩ := send_effect s id t ps now iv s' ht (hs id t ht) h
  intro j tj hj
  by_cases e : j = id
  · subst e; rw [htun] at hj; cases hj; exact hgap
  · rw [(hothers j e).1] at hj; exact hs j tj hj

theorem produceActive_gapFree (s : State) (id : Nat) (feeds : List Price) (now : Int) (rk : Bool)
    (hs : AllGapFree s) : AllGapFree (produceActive s id feeds now rk).1 := by
  cases ht : s.tunnels id with
  | none => rw [produceActive_none ht]; exact hs
  | some t =>
    rcases produceActive_cases ht feeds now rk with ⟨_, e⟩ | ⟨_, ⟨_, e⟩ | ⟨_, _, s', hsw, e⟩⟩ <;> rw [e]
    · intro j tj hj
      have hj : (if j = id then some { t with isActive := false } else s.tunnels j) = some tj := hj
      split at hj
      · cases hj; exact hs id t ht
      · exact hs j tj hj
    · exact hs
    · exact sendWith_gapFree s id t _ rk now _ s' hs ht hsw

inductive Op
  | endBlock (feeds : List Price) (now : Int) (rk : Nat → Bool)
  | trigger (id sender : Nat) (prices : List Price) (rk : Bool) (now : Int)

def step (s : State) : Op → State
  | .endBlock feeds now rk => endBlock feeds now rk s.activeIdx s
  | .trigger id sender prices rk now => (trigger s id sender prices rk now).1

theorem endBlock_gapFree (feeds : List Price) (now : Int) (rk : Nat → Bool) (l : List Nat) (s : State)
    (hs : AllGapFree s) : AllGapFree (endBlock feeds now rk l s) := by
  rw [endBlock_eq_foldl]
  exact List.foldlRecOn l _ hs fun s hs x _ => produceActive_gapFree s x feeds now (rk x) hs

theorem trigger_gapFree (s : State) (id sender : Nat) (ps : List Price) (rk : Bool) (now : Int)
    (hs : AllGapFree s) : AllGapFree (trigger s id sender ps rk now).1 :=
  (trigger_cases s id sender ps rk now).inv hs fun s' ⟨t, ht, _, _, _, _, hsw⟩ => sendWith_gapFree s id t ps rk now true s' hs ht hsw

/-- PROPERTY (gap-free over every history): whatever sequence of end-blocks (with any feeds, any route
    outcomes) and manual triggers runs, every tunnel's packets stay numbered 1, 2, …, sequence —
    no gap, no repeat, failed productions consume no number. -/
theorem sequence_gap_free (ops : List Op) (s : State) (hs : AllGapFree s) : AllGapFree (ops.foldl step s) :=
  List.foldlRecOn ops step hs fun s hs o _ => by
    cases o with
    | endBlock feeds now rk => exact endBlock_gapFree feeds now rk _ s hs
    | trigger id sender ps rk now => exact trigger_gapFree s id sender ps rk now hs

/-- PROPERTY (what was sent becomes the reference): every price of a sent packet (one price per signal) IS the tunnel's reference for that signal afterwards, whatever its
    status or value: each entry of the updated list for that signal is the sent price, and there is one -/
theorem sent_price_becomes_the_reference (l prices : List Price) (hnd : (prices.map (·.sid)).Nodup) (p : Price) (hp : p ∈ prices) :
    (∀ q ∈ updatePrices l prices, q.sid = p.sid → q = p) ∧ p ∈ updatePrices l prices := by
  induction prices generalizing l with
  | nil => cases hp
  | cons p0 rest ih =>
    obtain ⟨hnot, hrest⟩ := List.nodup_cons.mp hnd
    rw [updatePrices_cons]
    rcases List.mem_cons.mp hp with rfl | e
    · -- the first price: set now, untouched by the rest
      refine ⟨fun q hq hs => ?_, (updatePrices_untouched _ rest p hnot).mpr ((mem_upsert ..).mpr (.inr rfl))⟩
      have := (mem_upsert ..).mp ((updatePrices_untouched _ rest q (hs ▸ hnot)).mp hq)
      exact this.elim (fun h => absurd hs h.2) id
    · exact ih _ hrest e

/-! non-vacuity -/
def sdA : SD := ⟨"A", 100, 200⟩
example : generateNewPrices [sdA] [⟨"A", 3, 1000, 0⟩] [⟨"A", 3, 1020, 5⟩] 10 false = [⟨"A", 3, 1020, 5⟩] := by decide
example : generateNewPrices [sdA] [⟨"A", 3, 1000, 0⟩] [⟨"A", 3, 1019, 5⟩] 10 false = [] := by decide
example : generateNewPrices [sdA] [⟨"A", 3, 1000, 0⟩] [] 10 true = [⟨"A", 4, 0, 10⟩] := by decide
example : deviationBPS 0 5 = maxInt64 := by decide
example : updatePrices [{ sid := "a", status := 3, price := 5, ts := 1 }] [{ sid := "a", status := 2, price := 0, ts := 9 }] = [{ sid := "a", status := 2, price := 0, ts := 9 }] := by decide

end C08
