/-
C05 — a signing nonce pair (DE) is used at most once.
Model: Model/Signing.lean (a DE is a token; `assignedLog` records every token handed to a PERSISTED
signing attempt).  Lemmas: Lemmas/Signing.lean.
-/
import BandVerif.Lemmas.Signing

namespace C05
open BandVerif.Signing

/-- one operation of a history (every message, accepted or not, and every end-block with the
    committees the sampler would pick for the retries) -/
inductive Op
  | submitDE (m k : Nat) | resetDE (m : Nat)
  | request (sender : Nat) (authority : Bool) (limit : Coins) (committee : List Nat) (height : Int)
  | submit (sid member : Nat) (signerOk valid : Bool)
  | endBlock (committee : Nat → List Nat) (height nowNs : Int)
  | activate (m : Nat) (nowNs : Int)
  | setParams (period maxAtt maxDE : Nat) (fee : Coins)

def apply (s : State) : Op → State
  | .submitDE m k => (enqueue s m k).1
  | .resetDE m => resetDE s m
  | .request a b c d e => (request s a b c d e).1
  | .submit a b c d => (submit s a b c d).1
  | .endBlock c h n => endBlock s c h n
  | .activate m n => (activate s m n).1
  | .setParams p a d f => { s with signingPeriod := p, maxAttempt := a, maxDE := d, feePerSigner := f }

/-- `s` with the fields that `op` writes taken from `t` -/
def written : Op → State → State → State
  | .submitDE .., s, t => { s with queues := t.queues, nextToken := t.nextToken }
  | .resetDE _, s, t => { s with queues := t.queues }
  | .request .., s, t => request.written s t
  | .submit .., s, t => submit.written s t
  | .endBlock .., s, t => endBlock.written s t
  | .activate .., s, t => { s with bActive := t.bActive, bSince := t.bSince, tssActive := t.tssActive }
  | .setParams .., s, t =>
    { s with signingPeriod := t.signingPeriod, maxAttempt := t.maxAttempt, maxDE := t.maxDE, feePerSigner := t.feePerSigner }

/-- the frame lemmas of Lemmas/Signing.lean for an operation of a history; once `op` is a constructor, `hf` is `fun _ _ => rfl`
    for every `f` that does not read what that operation writes -/
theorem apply_frame {α : Sort _} (f : State → α) {op : Op} (hf : ∀ s t, f (written op s t) = f s) (s : State) :
    f (apply s op) = f s := by
  cases op with
  | submitDE m k =>
    rcases enqueue_cases s m k with ⟨-, e⟩ | ⟨-, e⟩ <;> rw [apply, e]
    exact hf s { s with queues := _, nextToken := _ }
  | resetDE m => exact hf s (resetDE s m)
  | request a b c d e => exact request_frame f hf s a b c d e
  | submit a b c d => exact submit_frame f hf s a b c d
  | endBlock c ht n => exact endBlock_frame f hf s c ht n
  | activate m n =>
    rcases activate_cases s m n with ⟨e', -, e⟩ | ⟨-, -, -, e⟩ <;> rw [apply, e]
    exact hf s { s with bActive := _, bSince := _, tssActive := _ }
  | setParams p a d f' => exact hf s { s with signingPeriod := p, maxAttempt := a, maxDE := d, feePerSigner := f' }

theorem step_tokInv (s : State) (op : Op) (h : TokInv s) : TokInv (apply s op) := by
  cases op with
  | submitDE m k => exact enqueue_tokInv s m k h
  | resetDE m => exact resetDE_tokInv s m h
  | request a b c d e => exact request_tokInv s a b c d e h
  | endBlock c ht n => exact endBlock_tokInv s c ht n h
  | _ => exact tokInv_of_view h (apply_frame tview (fun _ _ => rfl) s)

theorem history_tokInv (ops : List Op) (s : State) (h : TokInv s) : TokInv (ops.foldl apply s) :=
  List.foldlRecOn ops apply h fun s h op _ => step_tokInv s op h

/-- PROPERTY: over every history — nonce submissions, resets, signing requests, submissions, time-outs,
    retries, rolled-back creations — the tokens handed to persisted signing attempts are pairwise
    distinct (no DE is ever assigned twice), and an assigned token is in no member's queue afterwards. -/
theorem token_assigned_at_most_once (ops : List Op) (s : State) (h : TokInv s) :
    (logTokens (ops.foldl apply s)).Nodup ∧
    (∀ m, ∀ t ∈ (ops.foldl apply s).queues m, t ∉ logTokens (ops.foldl apply s)) ∧
    (∀ m, ((ops.foldl apply s).queues m).Nodup) := by
  have := history_tokInv ops s h
  exact ⟨this.log_nodup, this.q_log, this.q_nodup⟩

/-- PROPERTY: a submission that would raise the queued nonce count above the maximum is rejected and
    changes nothing; an accepted one keeps the queue within the maximum. -/
theorem size_bound (s : State) (m k : Nat) :
    ((enqueue s m k).2 = Err.ok → ((enqueue s m k).1.queues m).length ≤ s.maxDE ∧
        (enqueue s m k).1.queues m = s.queues m ++ (List.range k).map (· + s.nextToken)) ∧
    ((enqueue s m k).2 ≠ Err.ok → (enqueue s m k).1 = s ∧ (s.queues m).length + k > s.maxDE) := by
  rcases enqueue_cases s m k with ⟨h, e⟩ | ⟨h, e⟩ <;> rw [e]
  · exact ⟨nofun, fun _ => ⟨rfl, h⟩⟩
  · exact ⟨fun _ => ⟨by simpa using h, if_pos rfl⟩, fun h' => absurd rfl h'⟩

/-- FIFO: the DE handed to a selected member is the HEAD of its queue, and it leaves the queue. -/
theorem fifo (q : Nat → List Nat) (m t : Nat) (ts : List Nat) (rest : List Nat) (hq : q m = t :: ts) :
    (dequeueAll q (m :: rest)).1.head? = some (m, t) ∧
    ∀ u ∈ (dequeueAll q (m :: rest)).2 m, u ∈ ts := by
  -- the step for `m`: it is handed `t`, and `rest` is served from the queues in which `m` has `ts` left
  simp only [dequeueAll, hq]
  -- serving `rest` can only take away from that queue (`simpa` reads it off the `if`)
  exact ⟨rfl, fun u hu => by simpa using (dequeueAll_sublist rest _ m).subset hu⟩

/-- PROPERTY: a member with no queued nonce (or inactive) is not available for a committee, and a
    signing round is not started when fewer than `threshold` members are available. -/
theorem eligible_nonempty (s : State) (m : Nat) (h : m ∈ available s) :
    m ∈ s.members ∧ s.tssActive m = true ∧ s.queues m ≠ [] := by
  unfold available at h
  obtain ⟨h1, h2⟩ := List.mem_filter.mp h
  simp only [Bool.and_eq_true, Bool.not_eq_true', List.isEmpty_eq_false_iff] at h2
  exact ⟨h1, h2.1, h2.2⟩

theorem no_round_without_signers (s : State) (sid : Nat) (c : List Nat) (ht : Int) (sg : Sig)
    (h1 : s.signings sid = some sg) (h2 : sg.attempt + 1 ≤ s.maxAttempt) (h3 : s.threshold > (available s).length) :
    initiate s sid c ht = (s, Err.noSigners) := by
  unfold initiate; simp only [h1]
  rw [if_neg (by omega), if_pos h3]

/-- PROPERTY (rollback): a signing creation that fails leaves the state exactly as it was — no DE is
    lost or consumed (the retry/creation ran in a cache context that is dropped). -/
theorem rollback_restores (s : State) (a : Nat) (b : Bool) (c : Coins) (d : List Nat) (e : Int)
    (h : (request s a b c d e).2 ≠ Err.ok) : (request s a b c d e).1 = s := by
  rcases request_cases s a b c d e with ⟨e', -, he⟩ | ⟨_, _, -, -, -, -, he⟩
  · rw [he]
  · rw [he] at h; exact absurd rfl h

/-- reset only deletes the queued tokens: already-assigned tokens stay assigned-only -/
theorem reset_safe (s : State) (m : Nat) (h : TokInv s) :
    logTokens (resetDE s m) = logTokens s ∧ (resetDE s m).queues m = [] ∧ TokInv (resetDE s m) :=
  ⟨rfl, by simp [resetDE], resetDE_tokInv s m h⟩

/-! non-vacuity -/
def demo : State :=
  { members := [1, 2], threshold := 1, queues := fun m => if m = 1 then [0, 1] else if m = 2 then [2] else [], nextToken := 3,
    tssActive := fun _ => true, signings := fun _ => none, attempts := fun _ _ => none, partials := fun _ _ => [],
    expirations := [], pending := [], count := 0, signingPeriod := 2, maxAttempt := 2, maxDE := 3,
    bActive := fun _ => true, bSince := fun _ => 0, penalty := 0, mapping := fun _ => 0, bsigs := fun _ => none, bcount := 0,
    feePerSigner := fun _ => 0, escrow := fun _ => 0, bal := fun _ _ => 0, denoms := ["uband"],
    assignedLog := [], penalised := [], completedLog := [], failedLog := [] }
example : TokInv demo := by
  refine ⟨?_, ?_, ?_, ?_, by simp [logTokens, demo], by simp [logTokens, demo]⟩
  · intro m; by_cases h1 : m = 1 <;> by_cases h2 : m = 2 <;> simp [demo, h1, h2]
  · intro m t ht; by_cases h1 : m = 1 <;> by_cases h2 : m = 2 <;> simp [demo, h1, h2] at ht ⊢ <;> omega
  · intro m m' hne t ht ht'
    by_cases h1 : m = 1 <;> by_cases h2 : m = 2 <;> by_cases h3 : m' = 1 <;> by_cases h4 : m' = 2 <;>
      simp [demo, h1, h2, h3, h4] at ht ht' <;> omega
  · intro m t _; simp [logTokens, demo]
example : (dequeueAll demo.queues [1, 2]).1 = [(1, 0), (2, 2)] := by decide
example : (enqueue demo 1 2).2 = Err.deLimit := by decide

end C05
