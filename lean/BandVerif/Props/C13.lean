/-
C13 — service fees are exact, within the caller's limit, atomic with the service.
Models: Model/Fees.lean (oracle data-request fee collection) and Model/Signing.lean (bandtss signing
fees, escrow, payout).  Lemmas: Lemmas/Fees.lean (oracle part), Lemmas/SigningEscrow.lean (the escrow invariant `EInv`).
The histories of `escrow_covers_open` are over the alphabet `C05.Op` / `C05.apply` of Props/C05.lean.
Amounts are compared on the denoms in play.
-/
import BandVerif.Lemmas.Fees
import BandVerif.Lemmas.SigningEscrow
import BandVerif.Props.C05

namespace C13
open BandVerif

/-- PROPERTY (data request): when the fee collection succeeds the payer has paid exactly
    ask_count × Σ fees (repeated sources counted each time, zero-fee sources contributing nothing), each
    treasury received exactly its share, the total is within the caller's limit per denom, and the limit
    left in the request is `limit − paid`.  (`requestFees` returns (state, paid, limit left, error).) -/
theorem request_cost_exact (s : Fees.State) (payer ask : Nat) (limit : Fees.Coins) (srcs : List Fees.Source)
    (h : (Fees.requestFees s payer ask limit srcs).2.2.2 = Fees.Err.ok) :
    let r := Fees.requestFees s payer ask limit srcs
    (∀ d ∈ s.denoms, r.2.1 d = Fees.totalOf srcs ask d) ∧
    (∀ d ∈ s.denoms, Fees.totalOf srcs ask d ≤ limit d) ∧
    (∀ a, ∀ d ∈ s.denoms, r.1.bal a d + (if a = payer then Fees.totalOf srcs ask d else 0) = s.bal a d + Fees.shareOf srcs ask a d) ∧
    (∀ d, r.2.2.1 d = limit d - r.2.1 d) := by
  unfold Fees.requestFees at h ⊢
  rcases Fees.collect_cases s payer ask limit srcs s.bal (fun _ => 0) (by unfold Fees.geAll; simp) with
    ⟨e, hne, hc⟩ | ⟨bal', coll', hc, c1, c2, c3⟩
  · simp only [hc] at h; exact absurd h hne
  · simp only [hc]
    refine ⟨fun d hd => by simpa using c1 d hd, fun d hd => ?_, c3, fun d => rfl⟩
    have := (Fees.geAll_iff s _ _).mp c2 d hd
    rw [c1 d hd] at this; simpa using this

/-- PROPERTY (data request, atomicity): if the limit or the payer's balance is insufficient at ANY
    source, no transfer at all persists. -/
theorem reject_no_transfer (s : Fees.State) (payer ask : Nat) (limit : Fees.Coins) (srcs : List Fees.Source)
    (h : (Fees.requestFees s payer ask limit srcs).2.2.2 ≠ Fees.Err.ok) :
    (Fees.requestFees s payer ask limit srcs).1 = s := by
  unfold Fees.requestFees at h ⊢
  cases hc : Fees.collect s payer ask limit srcs s.bal (fun _ => 0) with
  | mk o e =>
    cases o with
    | none => rfl
    | some p => simp [hc] at h

/-- PROPERTY (signing request): a non-governance request costs exactly fee_per_signer × threshold, moved
    from the sender into escrow, never above the fee limit; governance requests are free; a rejected
    request moves nothing. -/
theorem signing_cost_exact (s : Signing.State) (sender : Nat) (auth : Bool) (limit : Signing.Coins) (c : List Nat) (ht : Int) :
    ((Signing.request s sender auth limit c ht).2 = Signing.Err.ok →
        let s' := (Signing.request s sender auth limit c ht).1
        (auth = false → (∀ d ∈ s.denoms, s.feePerSigner d * s.threshold ≤ limit d) ∧
            (∀ d ∈ s.denoms, s.feePerSigner d * s.threshold ≤ s.bal sender d) ∧
            (∀ d, s'.escrow d = s.escrow d + s.feePerSigner d * s.threshold) ∧
            (∀ d, s'.bal sender d = s.bal sender d - s.feePerSigner d * s.threshold) ∧
            (∀ a, a ≠ sender → s'.bal a = s.bal a)) ∧
        (auth = true → s'.escrow = s.escrow ∧ s'.bal = s.bal)) ∧
    ((Signing.request s sender auth limit c ht).2 ≠ Signing.Err.ok → (Signing.request s sender auth limit c ht).1 = s) := by
  rcases Signing.request_cases s sender auth limit c ht with ⟨e, he, h⟩ | ⟨_, _, hesc, hr, -, -, h⟩ <;> rw [h]
  · exact ⟨fun h' => absurd h' he, fun _ => rfl⟩
  · rw [← hesc]
    refine ⟨fun _ => ⟨?_, ?_⟩, fun h' => absurd rfl h'⟩ <;> rintro rfl
    · unfold Signing.requestErr at hr
      split at hr; · cases hr
      split at hr; · cases hr
      split at hr; · cases hr
      rename_i h1 h2 h3
      have g1 := (Signing.geAll_iff s _ _).mp (by simpa using h2)
      have g2 := (Signing.geAll_iff s _ _).mp (by simpa using h3)
      -- `recordB`, `initiated` and `fresh` leave the coins alone: they are those of `escrowed s sender false`
      exact ⟨g1, g2, Signing.escrowed_escrow s sender false,
        fun d => show (Signing.escrowed s sender false).bal sender d = _ by
          simp [Signing.escrowed, Signing.subC, Signing.reqCost, Signing.feeFor, Signing.mulC],
        fun a hne => show (Signing.escrowed s sender false).bal a = _ by simp [Signing.escrowed, hne]⟩
    · exact ⟨rfl, rfl⟩

/-- PROPERTY (payout): when a paid current-group signing completes, each assigned member receives exactly
    fee_per_signer from escrow (given the escrow holds it — `escrow_covers_open`, monitored), and
    nobody is paid for an incoming-group signing, a free signing, or an unknown id. -/
theorem payout_exact (s : Signing.State) (sid : Nat) (assigned : List Nat) (b : Signing.BSig) (d : String)
    (hmap : s.mapping sid ≠ 0) (hb : s.bsigs (s.mapping sid) = some b) (hcur : sid = b.currentSid)
    (hfee : Signing.isZero s b.feePerSigner = false) (hn : assigned.Nodup)
    (hesc : b.feePerSigner d * assigned.length ≤ s.escrow d) :
    (Signing.onCompleted s sid assigned).escrow d = s.escrow d - b.feePerSigner d * assigned.length ∧
    (∀ m ∈ assigned, (Signing.onCompleted s sid assigned).bal m d = s.bal m d + b.feePerSigner d) ∧
    (∀ m, m ∉ assigned → (Signing.onCompleted s sid assigned).bal m d = s.bal m d) ∧
    (Signing.onCompleted s sid assigned).mapping sid = 0 := by
  unfold Signing.onCompleted
  simp only [hmap, if_false, hb]
  have hc : (sid ≠ b.currentSid || Signing.isZero s b.feePerSigner) = false := by simp [hcur, hfee]
  simp only [hc, Bool.false_eq_true, if_false]
  rw [Signing.payAll_eq]
  -- a member of a duplicate-free list is listed once
  refine ⟨rfl, fun m hm => ?_, fun m hm => ?_, if_pos rfl⟩
  · show _ + _ * assigned.count m = _; rw [hn.count, if_pos hm, Nat.mul_one]
  · show _ + _ * assigned.count m = _; rw [hn.count, if_neg hm]; rfl

theorem no_pay_incoming_or_free (s : Signing.State) (sid : Nat) (assigned : List Nat) (b : Signing.BSig)
    (hb : s.bsigs (s.mapping sid) = some b) (h : sid ≠ b.currentSid ∨ Signing.isZero s b.feePerSigner = true) :
    (Signing.onCompleted s sid assigned).escrow = s.escrow ∧ (Signing.onCompleted s sid assigned).bal = s.bal := by
  unfold Signing.onCompleted
  by_cases hm : s.mapping sid = 0
  · exact (if_pos hm).symm ▸ ⟨rfl, rfl⟩
  · have hc : (sid ≠ b.currentSid || Signing.isZero s b.feePerSigner) = true := by
      rcases h with h | h <;> simp [h]
    rw [if_neg hm, hb]; dsimp only; rw [if_pos hc]; exact ⟨rfl, rfl⟩

/-- PROPERTY: nobody is paid for a failed signing (the mapping is dropped, the escrowed fee stays). -/
theorem no_pay_on_fail (s : Signing.State) (sid : Nat) :
    (Signing.onFailed s sid).escrow = s.escrow ∧ (Signing.onFailed s sid).bal = s.bal ∧ (Signing.onFailed s sid).mapping sid = 0 := by
  simp [Signing.onFailed]

/-- the sampler's contract used here (C09): a committee has at most `threshold` members (it has exactly that many) -/
def CommitteeOk (thr : Nat) : C05.Op → Prop
  | .request _ _ _ c _ => c.length ≤ thr
  | .endBlock c _ _ => ∀ i, (c i).length ≤ thr
  | _ => True

theorem step_einv (s : Signing.State) (op : C05.Op) (h : Signing.EInv s) (ok : CommitteeOk s.threshold op) :
    Signing.EInv (C05.apply s op) ∧ (C05.apply s op).threshold = s.threshold := by
  cases op with
  | request a b c d e => exact Signing.request_einv s a b c d e h ok
  | endBlock c ht n => exact ⟨Signing.endBlock_einv s c ht n h ok, Signing.endBlock_frame (·.threshold) (fun _ _ => rfl) ..⟩
  | _ =>
    exact ⟨Signing.einv_of_view h (C05.apply_frame Signing.eview (fun _ _ => rfl) s),
      C05.apply_frame (·.threshold) (fun _ _ => rfl) s⟩

/-- PROPERTY (the escrow covers every open paid signing, over EVERY history of requests — paid and free —, signature
    submissions, end-blocks with time-outs and retries, fee-parameter changes): the bandtss module account always holds at
    least fee_per_signer × threshold for each request whose current signing is still open -/
theorem escrow_covers_open (ops : List C05.Op) (s : Signing.State) (h : Signing.EInv s) (ok : ∀ op ∈ ops, CommitteeOk s.threshold op) :
    Signing.EInv (ops.foldl C05.apply s) :=
  (List.foldlRecOn (motive := fun s' => Signing.EInv s' ∧ s'.threshold = s.threshold) ops C05.apply ⟨h, rfl⟩
    fun s' h' op hop => by
      obtain ⟨q1, q2⟩ := step_einv s' op h'.1 (h'.2 ▸ ok op hop)
      exact ⟨q1, q2.trans h'.2⟩).1

/-- … hence the payout of OnSigningCompleted never exceeds the module account's balance (the `SendCoins` from the
    bandtss module account cannot fail, the end-blocker cannot panic there): in every state satisfying the invariant,
    for the current signing of an open request and any of its stored attempts, fee × |assigned members| ≤ escrow -/
theorem payout_never_exceeds_escrow (s : Signing.State) (h : Signing.EInv s) (sid : Nat) (b : Signing.BSig)
    (hm : s.mapping sid ≠ 0) (hb : s.bsigs (s.mapping sid) = some b) (hcur : sid = b.currentSid)
    (att : Nat) (atm : Signing.Attempt) (ha : s.attempts sid att = some atm) (d : String) :
    b.feePerSigner d * atm.assigned.length ≤ s.escrow d :=
  h.payout_le hm hb hcur (h.small sid att atm ha) d

/-! non-vacuity -/
def demoS : Fees.State := { bal := fun a d => if a = 0 ∧ d = "uband" then 100 else 0, denoms := ["uband"] }
def demoSrcs : List Fees.Source := [⟨fun d => if d = "uband" then 7 else 0, 1⟩, ⟨fun _ => 0, 2⟩, ⟨fun d => if d = "uband" then 7 else 0, 1⟩]
example : (Fees.requestFees demoS 0 2 (fun d => if d = "uband" then 28 else 0) demoSrcs).2.2.2 = Fees.Err.ok := by decide
example : (Fees.requestFees demoS 0 2 (fun d => if d = "uband" then 27 else 0) demoSrcs).2.2.2 = Fees.Err.notEnoughFee := by decide
example : (Fees.requestFees demoS 0 2 (fun d => if d = "uband" then 28 else 0) demoSrcs).1.bal 1 "uband" = 28 := by decide

/-- a state with one open PAID signing (fee 2uband per signer, threshold 2, escrow 5uband) satisfies the escrow invariant -/
def demoSig : Signing.State :=
  { members := [1, 2], threshold := 2, queues := fun _ => [], nextToken := 3,
    tssActive := fun _ => true, signings := fun i => if i = 1 then some ⟨1, 1⟩ else none,
    attempts := fun i a => if i = 1 ∧ a = 1 then some ⟨12, [(1, 0), (2, 2)]⟩ else none,
    partials := fun _ _ => [], expirations := [(1, 1)], pending := [], count := 1, signingPeriod := 2, maxAttempt := 2, maxDE := 3,
    bActive := fun _ => true, bSince := fun _ => 0, penalty := 0, mapping := fun i => if i = 1 then 1 else 0,
    bsigs := fun i => if i = 1 then some ⟨fun d => if d = "uband" then 2 else 0, 100, 1⟩ else none, bcount := 1,
    feePerSigner := fun d => if d = "uband" then 2 else 0, escrow := fun d => if d = "uband" then 5 else 0, bal := fun _ _ => 0, denoms := ["uband"],
    assignedLog := [], penalised := [], completedLog := [], failedLog := [] }
example : Signing.EInv demoSig := by
  refine ⟨?_, ?_, ?_, ?_, ?_⟩
  · intro d
    by_cases hd : d = "uband" <;> simp [Signing.owedSum, Signing.owed, demoSig, hd, List.range_succ]
  · intro i a atm q
    by_cases e : i = 1 ∧ a = 1
    · simp [demoSig, e] at q; subst q; simp [demoSig]
    · simp [demoSig, e] at q
  · intro i; by_cases e : i = 1 <;> simp [demoSig, e]
  · intro i hi
    have : i ≠ 1 := by simp [demoSig] at hi; omega
    simp [demoSig, this]
  · intro i hi
    by_cases e : i = 1 <;> simp [demoSig, e] at hi ⊢

end C13
