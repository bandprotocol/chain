/-
C01 — an oracle request resolves exactly once, correctly, from authorised reports.
Model: Model/Oracle.lean; lemmas: Lemmas/Oracle.lean. Histories are arbitrary lists of operations
(request admission, reports, end-blocks with arbitrary heights/times/parameters/script outcomes).
-/
import BandVerif.Lemmas.Oracle

namespace C01
open BandVerif.Oracle BandVerif.VStatus

/-- one step of a history -/
inductive Op
  | request (r : Req)                                              -- an ACCEPTED data request
  | report (val rid : Nat) (eids : List Nat) (oversize : Bool)     -- MsgReportData (accepted or rejected)
  | endBlock (outcome : Nat → Nat × String) (exp height nowNs : Int)
  | activate (val : Nat) (penalty now : Int)

/-- `none` = a Go panic inside the end-blocker -/
def step (s : State) : Op → Option State
  | .request r => some (addRequest s r)
  | .report v rid eids ov => some (report s v rid eids ov).1
  | .endBlock o e h n => endBlock s o e h n
  | .activate v p n => some { s with vstat := fun i => if i = v then (activate (s.vstat v) p n).1 else s.vstat i }

def run : List Op → State → Option State
  | [], s => some s
  | op :: rest, s => match step s op with
    | none => none
    | some s' => run rest s'

theorem step_inv (s : State) (op : Op) (h : Inv s) : ∃ s', step s op = some s' ∧ Inv s' := by
  cases op with
  | request r => exact ⟨_, rfl, inv_addRequest s r h⟩
  | report v rid eids ov => exact ⟨_, rfl, inv_report s v rid eids ov h⟩
  | endBlock o e ht n =>
    obtain ⟨s', h1, h2⟩ := endBlock_spec s o e ht n h
    exact ⟨s', h1, h2.inv⟩
  -- `Inv` does not read `vstat`: every field of `h` has, by unfolding, the type wanted of the updated state
  | activate v p n => exact ⟨_, rfl, { h with }⟩

/-- PROPERTY (totality of the oracle end-blocker; C02 uses its step, `step_inv`): from the initial state NO history makes
    `MustGetRequest` panic — every history runs to a state satisfying the invariant. -/
theorem endblock_no_panic (ops : List Op) : ∃ s, run ops State.init = some s ∧ Inv s := by
  suffices H : ∀ (s : State), Inv s → ∃ s', run ops s = some s' ∧ Inv s' from H _ inv_init
  induction ops with
  | nil => intro s h; exact ⟨s, rfl, h⟩
  | cons op rest ih =>
    intro s h
    obtain ⟨s1, e1, h1⟩ := step_inv s op h
    simp only [run, e1]
    exact ih s1 h1

theorem step_write_once (s s' : State) (op : Op) (h : Inv s) (hs : step s op = some s') (id : Nat) (r : Res)
    (hr : s.results id = some r) : s'.results id = some r := by
  cases op with
  | request rq => cases hs; exact hr
  | report v rid eids ov =>
    cases hs
    refine (report_cases s v rid eids ov).inv (P := fun s' => s'.results id = some r) hr ?_
    rintro _ ⟨_, rfl, -⟩
    rw [reportApply_results]; exact hr
  | endBlock o e ht n => exact (endBlock_spec_of_some h hs).kept id r hr
  | activate v p n => cases hs; exact hr

/-- PROPERTY (exactly one result, never changes): once a request has a result, every continuation
    of the history — reports, further requests, any number of end-blocks — leaves that result as is. -/
theorem result_write_once (ops ops' : List Op) (s s' : State) (id : Nat) (r : Res)
    (h1 : run ops State.init = some s) (hr : s.results id = some r) (h2 : run ops' s = some s') :
    s'.results id = some r := by
  obtain ⟨_, e0, hinv⟩ := endblock_no_panic ops
  cases h1.symm.trans e0
  clear h1 e0
  induction ops' generalizing s with
  | nil => cases h2; exact hr
  | cons op rest ih =>
    simp only [run] at h2
    obtain ⟨s1, e1, i1⟩ := step_inv s op hinv
    rw [e1] at h2
    exact ih s1 (step_write_once s s1 op hinv e1 id r hr) h2 i1

/-- PROPERTY (when and how a result is produced): at an end-block, a request without a result gets one
    only (a) because it is on the pending list — i.e. the stored report count hit min_count since the
    previous end-block — with the script's outcome, or (b) as EXPIRED because the expiration window has
    passed and it was not pending.  Either way the result mirrors the request and the reports present. -/
theorem resolve_timing (s s' : State) (o : Nat → Nat × String) (e ht n : Int) (hinv : Inv s)
    (hs : endBlock s o e ht n = some s') (id : Nat) (r : Res) (h0 : s.results id = none) (h1 : s'.results id = some r) :
    ∃ req, s.requests id = some req ∧
      r.clientId = req.clientId ∧ r.calldata = req.calldata ∧ r.askCount = req.vals.length ∧ r.minCount = req.minCount ∧
      r.requestTime = req.time ∧ r.resolveTime = unixOf n ∧ r.ansCount = (s.reports id).length ∧
      ((id ∈ s.pending ∧ r.status = (o id).1 ∧ r.result = (o id).2 ∧ req.minCount ≤ (s.reports id).length) ∨
       (id ∉ s.pending ∧ r.status = statusExpired ∧ req.height + e ≤ ht)) := by
  obtain ⟨req, hq, hcase⟩ := (endBlock_spec_of_some hinv hs).fresh id r h0 h1
  refine ⟨req, hq, ?_⟩
  rcases hcase with ⟨hm, rfl⟩ | ⟨hm, hexp, rfl⟩
  · exact ⟨rfl, rfl, rfl, rfl, rfl, rfl, rfl, Or.inl ⟨hm, rfl, rfl, hinv.pend_full id hm req hq⟩⟩
  · exact ⟨rfl, rfl, rfl, rfl, rfl, rfl, rfl, Or.inr ⟨hm, rfl, hexp⟩⟩

/-- every pending request is resolved by the very next end-block, and the list is cleared -/
theorem pending_resolved_next_endblock (s s' : State) (o : Nat → Nat × String) (e ht n : Int) (hinv : Inv s)
    (hs : endBlock s o e ht n = some s') : (∀ id ∈ s.pending, (s'.results id).isSome) ∧ s'.pending = [] :=
  ⟨(endBlock_spec_of_some hinv hs).resolved, (endBlock_spec_of_some hinv hs).pending⟩

/-- every request the expiry cursor has passed has a result (so an accepted request obtains a result
    once the expiration window has passed and the cursor reaches it) -/
theorem expired_has_result (ops : List Op) (s : State) (h : run ops State.init = some s) (id : Nat)
    (h1 : 1 ≤ id) (h2 : id ≤ s.lastExpired) : (s.results id).isSome := by
  obtain ⟨_, e0, hinv⟩ := endblock_no_panic ops
  cases h.symm.trans e0
  exact hinv.expired_has_result id h1 h2

/-- PROPERTY (authorised reports only): an accepted report comes from a validator chosen for the
    request, that has not reported yet, for a request that exists and has not expired, with pairwise
    distinct external ids, as many as requested and all of them requested ids. -/
theorem report_authorised (s : State) (val rid : Nat) (eids : List Nat) (ov : Bool)
    (h : (report s val rid eids ov).2 = RErr.ok) :
    ∃ req, s.requests rid = some req ∧ val ∈ req.vals ∧ val ∉ s.reports rid ∧ s.lastExpired < rid ∧
      eids.Nodup ∧ eids ≠ [] ∧ eids.length = req.eids.length ∧ (∀ e ∈ eids, e ∈ req.eids) ∧ ov = false :=
  let ⟨req, _, hauth⟩ := (report_cases s val rid eids ov).1 h
  ⟨req, hauth⟩

theorem rejected_report_changes_nothing (s : State) (val rid : Nat) (eids : List Nat) (ov : Bool)
    (h : (report s val rid eids ov).2 ≠ RErr.ok) : (report s val rid eids ov).1 = s :=
  (report_cases s val rid eids ov).2 h

/-- C15 on the oracle path: the end-block changes a validator's status only for a request that the
    expiry cursor passes in this very block, that asked this validator, and for which it has no report. -/
theorem deactivation_genuine (s s' : State) (o : Nat → Nat × String) (e ht n : Int) (hinv : Inv s)
    (hs : endBlock s o e ht n = some s') (v : Nat) (hv : s'.vstat v ≠ s.vstat v) :
    ∃ id req, s.requests id = some req ∧ v ∈ req.vals ∧ v ∉ s.reports id ∧ req.height + e ≤ ht ∧
      s.lastExpired < id ∧ id ≤ s'.lastExpired :=
  (endBlock_spec_of_some hinv hs).vstat v hv

/-! non-vacuity: a concrete history — request, two reports reaching min_count, end-block -/
def demoReq : Req := { vals := [0, 1, 2], minCount := 2, eids := [1, 2, 3], height := 10, time := 100, clientId := "c", calldata := "" }
def demoOps : List Op :=
  [.request demoReq, .report 0 1 [3, 1, 2] false, .report 1 1 [1, 2, 3] false,
   .endBlock (fun _ => (1, "beeb")) 5 10 100000000000]
example : ((run demoOps State.init).map fun s => (s.results 1).map (·.status)) = some (some 1) := by decide
example : ((run demoOps State.init).map fun s => (s.results 1).map (·.ansCount)) = some (some 2) := by decide
example : (report (addRequest State.init demoReq) 5 1 [1, 2, 3] false).2 = RErr.notRequested := by decide

end C01
