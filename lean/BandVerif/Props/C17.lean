/-
C17 — tunnel deposits are fully backed, owner-withdrawable, and gate activation.
Model: Model/TunnelDeposit.lean; lemmas: Lemmas/TunnelDeposit.lean (the handlers' `*_cases`, the ledger view `Moved`).
Amounts are compared on the denoms in play (`s.denoms`); accounts in play are `s.accts`.
-/
import BandVerif.Lemmas.TunnelDeposit
import BandVerif.Common.ListSum

namespace C17
open BandVerif.TunnelDeposit

/-- each tunnel's total deposit equals the sum of its depositors' recorded deposits -/
def TotalEq (s : State) : Prop :=
  ∀ tid, ∀ d ∈ s.denoms, tot s tid d = (s.accts.map (fun b => dep s tid b d)).sum

/-- a deposit or a withdrawal changes one summand of one tunnel's sum, and that tunnel's total by as much -/
theorem totalEq_of_moved {s s' : State} {tid a : Nat} {inn out : Coins} (m : Moved s s' tid a inn out)
    (hn : s.accts.Nodup) (ha : a ∈ s.accts) (h : TotalEq s) : TotalEq s' := by
  intro i d hd
  rw [m.denoms] at hd
  have hdep : ∀ b, i ≠ tid ∨ b ≠ a → dep s' i b d = dep s i b d := fun b hb => by unfold dep; rw [m.recs i b hb]
  rw [m.accts]
  by_cases hi : i = tid
  · subst hi
    have := BandVerif.sum_map_move s.accts (dep s i · d) (dep s' i · d) a (inn d) (out d) hn ha (fun b _ hb => hdep b (.inr hb))
      (by rw [m.record d hd]; have := m.le d hd; omega)
    rw [m.total, h i d hd]; omega
  · rw [List.map_congr_left fun b _ => hdep b (.inl hi), ← h i d hd]
    unfold tot; rw [m.slots i hi]

/-- PROPERTY: an accepted deposit keeps `total = Σ deposits` for every tunnel and denom, debits the
    depositor and credits the module account by exactly the amount. -/
theorem deposit_preserves_total (s : State) (tid a : Nat) (amt : Coins) (hn : s.accts.Nodup) (ha : a ∈ s.accts)
    (hinv : TotalEq s) (h : (depositOp s tid a amt).2 = Err.ok) :
    TotalEq (depositOp s tid a amt).1 ∧
    (∀ d, (depositOp s tid a amt).1.moduleBal d = s.moduleBal d + amt d) ∧
    (∀ d, (depositOp s tid a amt).1.bal a d = s.bal a d - amt d) ∧ (∀ d ∈ s.denoms, amt d ≤ s.bal a d) := by
  obtain ⟨_, hb, m⟩ := depositOp_moved s tid a amt h
  exact ⟨totalEq_of_moved m hn ha hinv, m.mod, m.bal, hb⟩

/-- PROPERTY: a depositor can withdraw at most their own recorded deposit and receives exactly the
    withdrawn amount; `total = Σ deposits` is kept; the module account pays exactly the amount. -/
theorem withdraw_bounded_exact (s : State) (tid a : Nat) (amt : Coins) (hn : s.accts.Nodup) (ha : a ∈ s.accts)
    (hinv : TotalEq s) (h : (withdrawOp s tid a amt).2 = Err.ok) :
    (∀ d ∈ s.denoms, amt d ≤ dep s tid a d) ∧
    (∀ d, (withdrawOp s tid a amt).1.bal a d = s.bal a d + amt d) ∧
    (∀ d, (withdrawOp s tid a amt).1.moduleBal d = s.moduleBal d - amt d) ∧
    (∀ d ∈ s.denoms, dep (withdrawOp s tid a amt).1 tid a d = dep s tid a d - amt d) ∧
    TotalEq (withdrawOp s tid a amt).1 :=
  have m := (withdrawOp_moved s tid a amt h).2
  ⟨m.le, m.bal, m.mod, m.record, totalEq_of_moved m hn ha hinv⟩

/-- PROPERTY: a withdrawal that takes an ACTIVE tunnel's total below the minimum deposit deactivates it
    (flag cleared and id removed from the active index); otherwise the activity is untouched. -/
theorem withdraw_deactivates_below_min (s : State) (tid a : Nat) (amt : Coins) (t : Tunnel)
    (ht : s.tunnels tid = some t) (h : (withdrawOp s tid a amt).2 = Err.ok) :
    ∃ t', (withdrawOp s tid a amt).1.tunnels tid = some t' ∧ t'.creator = t.creator ∧
      t'.totalDeposit = subC t.totalDeposit amt ∧
      t'.isActive = (t.isActive && geAll s (subC t.totalDeposit amt) s.minDeposit) ∧
      (withdrawOp s tid a amt).1.activeIdx =
        if t.isActive && !geAll s (subC t.totalDeposit amt) s.minDeposit then s.activeIdx.filter (· ≠ tid) else s.activeIdx := by
  obtain ⟨t0, dd, ht0, _, _, e⟩ := (withdrawOp_cases s tid a amt).1 h
  cases ht.symm.trans ht0
  have hw : (withdrawn s tid a amt t dd).tunnels tid = some { t with totalDeposit := subC t.totalDeposit amt } := if_pos rfl
  rw [e]
  split
  · rename_i hb
    simp only [Bool.and_eq_true, Bool.not_eq_true'] at hb
    rw [deactivateTunnel_some hw]
    exact ⟨_, if_pos rfl, rfl, rfl, by simp [hb.2], rfl⟩
  · rename_i hb
    refine ⟨_, hw, rfl, rfl, ?_, rfl⟩
    cases hta : t.isActive <;> simp_all

theorem mem_insertSorted (l : List Nat) (x y : Nat) : y ∈ insertSorted l x ↔ y ∈ l ∨ y = x := by
  unfold insertSorted
  split
  · rename_i h; exact ⟨.inl, fun h' => h'.elim id (· ▸ h)⟩
  · simp

/-- PROPERTY (activation gate): MsgActivate succeeds only for the tunnel's creator, only when the tunnel
    is inactive, and only while the total deposit covers the minimum; it then sets the flag and the index.
    Anything else is rejected without a state change. -/
theorem activate_gate (s : State) (tid sender : Nat) :
    ((activateOp s tid sender).2 = Err.ok →
        ∃ t, s.tunnels tid = some t ∧ t.creator = sender ∧ t.isActive = false ∧
          geAll s t.totalDeposit s.minDeposit = true ∧
          (activateOp s tid sender).1.tunnels tid = some { t with isActive := true } ∧
          tid ∈ (activateOp s tid sender).1.activeIdx) ∧
    ((activateOp s tid sender).2 ≠ Err.ok → (activateOp s tid sender).1 = s) := by
  refine ⟨fun h => ?_, (activateOp_cases s tid sender).2⟩
  obtain ⟨t, ht, hc, ha, hg, e⟩ := (activateOp_cases s tid sender).1 h
  rw [e]
  exact ⟨t, ht, hc, ha, hg, if_pos rfl, (mem_insertSorted ..).mpr (.inr rfl)⟩

/-- PROPERTY: only the creator can deactivate, and only an active tunnel. -/
theorem deactivate_gate (s : State) (tid sender : Nat) :
    ((deactivateOp s tid sender).2 = Err.ok → ∃ t, s.tunnels tid = some t ∧ t.creator = sender ∧ t.isActive = true ∧
        tid ∉ (deactivateOp s tid sender).1.activeIdx) ∧
    ((deactivateOp s tid sender).2 ≠ Err.ok → (deactivateOp s tid sender).1 = s) := by
  refine ⟨fun h => ?_, (deactivateOp_cases s tid sender).2⟩
  obtain ⟨t, ht, hc, ha, e⟩ := (deactivateOp_cases s tid sender).1 h
  rw [e, deactivateTunnel_eq]
  exact ⟨t, ht, hc, ha, by simp [ht]⟩

theorem rejected_changes_nothing (s : State) (tid a : Nat) (amt : Coins) :
    ((depositOp s tid a amt).2 ≠ Err.ok → (depositOp s tid a amt).1 = s) ∧
    ((withdrawOp s tid a amt).2 ≠ Err.ok → (withdrawOp s tid a amt).1 = s) :=
  ⟨(depositOp_cases s tid a amt).2, (withdrawOp_cases s tid a amt).2⟩

/-- every message, accepted or rejected -/
inductive Op
  | create (creator : Nat) (initial : Coins)
  | deposit (tid a : Nat) (amt : Coins)
  | withdraw (tid a : Nat) (amt : Coins)
  | activate (tid sender : Nat)
  | deactivate (tid sender : Nat)

def apply (s : State) : Op → State
  | .create c i => (createOp s c i).1
  | .deposit t a m => (depositOp s t a m).1
  | .withdraw t a m => (withdrawOp s t a m).1
  | .activate t x => (activateOp s t x).1
  | .deactivate t x => (deactivateOp s t x).1

/-- the accounts that move coins are among the accounts in play -/
def OpOk (accts : List Nat) : Op → Prop
  | .create c _ => c ∈ accts
  | .deposit _ a _ => a ∈ accts
  | .withdraw _ a _ => a ∈ accts
  | _ => True

/-- every tunnel's total is the sum of its depositors' records, and the module account holds
    exactly the sum of all tunnels' totals (this model has no packet fees: C08 adds them on top) -/
structure DInv (s : State) : Prop where
  total : TotalEq s
  backed : ∀ d ∈ s.denoms, s.moduleBal d = ((List.range (s.count + 1)).map (fun i => tot s i d)).sum
  beyond : ∀ i, s.count < i → s.tunnels i = none ∧ ∀ a, s.deposits i a = none
  nodup : s.accts.Nodup

theorem tot_le_count (s : State) (h : DInv s) (tid : Nat) (ht : (s.tunnels tid).isSome) : tid ∈ List.range (s.count + 1) := by
  rw [List.mem_range]
  cases Nat.lt_or_ge s.count tid with
  | inl hlt => rw [(h.beyond tid hlt).1] at ht; cases ht
  | inr hge => omega

/-- a deposit or a withdrawal also changes one summand of the module account's sum, by as much as the account.  The record
    is part of the tunnel's total (`h.total`), so a withdrawal bounded by the record is bounded by the total. -/
theorem dinv_of_moved {s s' : State} {tid a : Nat} {inn out : Coins} (m : Moved s s' tid a inn out) (h : DInv s)
    (ha : a ∈ s.accts) (ht : (s.tunnels tid).isSome) : DInv s' := by
  have hne : ∀ i, s.count < i → i ≠ tid := fun i hi e => by rw [← e, (h.beyond i hi).1] at ht; cases ht
  refine ⟨totalEq_of_moved m h.nodup ha h.total, fun d hd => ?_, fun i hi => ?_, m.accts ▸ h.nodup⟩
  · rw [m.denoms] at hd
    have hle : dep s tid a d ≤ tot s tid d := h.total tid d hd ▸ BandVerif.le_sum_map_of_mem s.accts (dep s tid · d) a ha
    have := BandVerif.sum_map_move (List.range (s.count + 1)) (tot s · d) (tot s' · d) tid (inn d) (out d) List.nodup_range
      (tot_le_count s h tid ht) (fun i _ hi => by unfold tot; rw [m.slots i hi]) (by rw [m.total]; have := m.le d hd; omega)
    rw [m.mod, m.count, h.backed d hd]; omega
  · rw [m.count] at hi
    rw [m.slots i (hne i hi)]
    exact ⟨(h.beyond i hi).1, fun b => (m.recs i b (.inl (hne i hi))).trans ((h.beyond i hi).2 b)⟩

theorem deposit_dinv (s : State) (tid a : Nat) (amt : Coins) (h : DInv s) (ha : a ∈ s.accts) :
    DInv (depositOp s tid a amt).1 ∧ (depositOp s tid a amt).1.accts = s.accts ∧ (depositOp s tid a amt).1.denoms = s.denoms := by
  by_cases hok : (depositOp s tid a amt).2 = Err.ok
  · obtain ⟨ht, _, m⟩ := depositOp_moved s tid a amt hok
    exact ⟨dinv_of_moved m h ha ht, m.accts, m.denoms⟩
  · rw [(depositOp_cases s tid a amt).2 hok]; exact ⟨h, rfl, rfl⟩

theorem withdraw_dinv (s : State) (tid a : Nat) (amt : Coins) (h : DInv s) (ha : a ∈ s.accts) :
    DInv (withdrawOp s tid a amt).1 ∧ (withdrawOp s tid a amt).1.accts = s.accts ∧ (withdrawOp s tid a amt).1.denoms = s.denoms := by
  by_cases hok : (withdrawOp s tid a amt).2 = Err.ok
  · obtain ⟨ht, m⟩ := withdrawOp_moved s tid a amt hok
    exact ⟨dinv_of_moved m h ha ht, m.accts, m.denoms⟩
  · rw [(withdrawOp_cases s tid a amt).2 hok]; exact ⟨h, rfl, rfl⟩

/-- changing only the activity flag / index of a tunnel keeps the invariant -/
theorem dinv_of_same_money (s s' : State) (h : DInv s) (ht : ∀ i d, tot s' i d = tot s i d) (hd : s'.deposits = s.deposits)
    (hm : s'.moduleBal = s.moduleBal) (hc : s'.count = s.count) (hdn : s'.denoms = s.denoms) (ha : s'.accts = s.accts)
    (hb : ∀ i, s.count < i → s'.tunnels i = none) : DInv s' := by
  refine ⟨?_, ?_, ?_, by rw [ha]; exact h.nodup⟩
  · intro i d hdm
    rw [hdn] at hdm
    rw [ht, ha, h.total i d hdm]
    unfold dep; rw [hd]
  · intro d hdm
    rw [hdn] at hdm
    rw [hm, hc, h.backed d hdm]
    exact congrArg _ (List.map_congr_left fun b _ => (ht b d).symm)
  · intro i hi
    rw [hc] at hi
    exact ⟨hb i hi, fun a => by rw [hd]; exact (h.beyond i hi).2 a⟩

theorem dinv_setActive (s : State) (tid : Nat) (t : Tunnel) (b : Bool) (l : List Nat) (h : DInv s) (ht : s.tunnels tid = some t) :
    DInv { (setTunnel s tid { t with isActive := b }) with activeIdx := l } := by
  refine dinv_of_same_money s _ h (fun i d => ?_) rfl rfl rfl rfl rfl fun i hi => ?_
  · unfold tot setTunnel; dsimp only; split
    · rename_i e; rw [e, ht]; rfl
    · rfl
  · exact (if_neg fun e => by rw [e] at hi; rw [(h.beyond tid hi).1] at ht; cases ht).trans (h.beyond i hi).1

/-- the next id is free, so the new tunnel adds a zero summand -/
theorem dinv_created (s : State) (c : Nat) (h : DInv s) : DInv (created s c) := by
  have hnew := (h.beyond (s.count + 1) (Nat.lt_succ_self _)).1
  have htot : ∀ i d, tot (created s c) i d = tot s i d := fun i d => by
    unfold tot created setTunnel; dsimp only; split
    · rename_i e; rw [e, hnew]; rfl
    · rfl
  refine ⟨fun i d hd => (htot i d).trans (h.total i d hd), fun d hd => ?_, fun i hi => ?_, h.nodup⟩
  · show s.moduleBal d = ((List.range (s.count + 1 + 1)).map _).sum
    rw [List.range_succ, List.map_append, List.sum_append, List.map_congr_left fun i _ => htot i d, ← h.backed d hd]
    show _ = _ + (tot (created s c) (s.count + 1) d + 0)
    rw [htot]; simp [tot, hnew]
  · have hi' : s.count + 1 < i := hi
    exact ⟨(if_neg (by omega)).trans (h.beyond i (by omega)).1, (h.beyond i (by omega)).2⟩

theorem step_dinv (s : State) (op : Op) (h : DInv s) (ok : OpOk s.accts op) :
    DInv (apply s op) ∧ (apply s op).accts = s.accts := by
  cases op with
  | deposit t a m => exact (deposit_dinv s t a m h ok).imp_right And.left
  | withdraw t a m => exact (withdraw_dinv s t a m h ok).imp_right And.left
  | deactivate t x =>
    exact (deactivateOp_cases s t x).inv (P := fun s' => DInv s' ∧ s'.accts = s.accts) ⟨h, rfl⟩
      fun _ ⟨tt, ht, _, _, e⟩ => e ▸ deactivateTunnel_some ht ▸ ⟨dinv_setActive s t tt _ _ h ht, rfl⟩
  | activate t x =>
    exact (activateOp_cases s t x).inv (P := fun s' => DInv s' ∧ s'.accts = s.accts) ⟨h, rfl⟩
      fun _ ⟨tt, ht, _, _, _, e⟩ => e ▸ ⟨dinv_setActive s t tt _ _ h ht, rfl⟩
  | create c init =>
    refine (createOp_cases s c init).inv (P := fun s' => DInv s' ∧ s'.accts = s.accts) ⟨h, rfl⟩ fun _ e => ?_
    rcases e with rfl | rfl
    · exact ⟨dinv_created s c h, rfl⟩
    · exact (deposit_dinv _ _ c init (dinv_created s c h) ok).imp_right And.left

/-- PROPERTY (deposits are fully backed, over EVERY history of creations, deposits, withdrawals, activations and
    deactivations, accepted or rejected): each tunnel's total equals the sum of its depositors' records and the module
    account holds exactly the sum of all tunnels' totals -/
theorem deposits_fully_backed (ops : List Op) (s : State) (h : DInv s) (ok : ∀ op ∈ ops, OpOk s.accts op) :
    DInv (ops.foldl apply s) :=
  (List.foldlRecOn ops apply (motive := fun s' => DInv s' ∧ s'.accts = s.accts) ⟨h, rfl⟩ fun s' hs op hop =>
    have q := step_dinv s' op hs.1 (hs.2 ▸ ok op hop)
    ⟨q.1, q.2.trans hs.2⟩).1

/-- a tunnel id is in the active index (what the end-blocker iterates) exactly when the tunnel exists and is flagged active -/
def FlagIdx (s : State) : Prop := ∀ tid, tid ∈ s.activeIdx ↔ ∃ t, s.tunnels tid = some t ∧ t.isActive = true

theorem flagIdx_setTotal (s : State) (tid : Nat) (t : Tunnel) (ht : s.tunnels tid = some t) (td : Coins) (s' : State)
    (h1 : s'.activeIdx = s.activeIdx) (h2 : ∀ i, s'.tunnels i = if i = tid then some { t with totalDeposit := td } else s.tunnels i)
    (h : FlagIdx s) : FlagIdx s' := by
  intro i
  rw [h1, h i, h2 i]
  split
  · rename_i e; subst e
    rw [ht]
    constructor <;> rintro ⟨_, e, ha⟩ <;> cases e <;> exact ⟨_, rfl, ha⟩
  · rfl

theorem flagIdx_deactivate (s : State) (tid : Nat) (h : FlagIdx s) : FlagIdx (deactivateTunnel s tid) := by
  unfold deactivateTunnel
  split
  · exact h
  · intro i
    simp only [setTunnel, List.mem_filter, decide_eq_true_eq, h i]
    split
    · rename_i e; simp [e]
    · rename_i e; simp [e]

theorem flagIdx_deposit (s : State) (t a : Nat) (m : Coins) (h : FlagIdx s) : FlagIdx (depositOp s t a m).1 :=
  (depositOp_cases s t a m).inv h fun _ ⟨tt, ht, e, _⟩ =>
    e ▸ flagIdx_setTotal s t tt ht (addC tt.totalDeposit m) _ rfl (fun _ => rfl) h

theorem step_flagIdx (s : State) (op : Op) (h : FlagIdx s) (hb : ∀ i, s.count < i → s.tunnels i = none) :
    FlagIdx (apply s op) := by
  cases op with
  | deposit t a m => exact flagIdx_deposit s t a m h
  | withdraw t a m =>
    refine (withdrawOp_cases s t a m).inv h fun _ ⟨tt, dd, ht, _, _, e⟩ => e ▸ ?_
    have hw : FlagIdx (withdrawn s t a m tt dd) := flagIdx_setTotal s t tt ht (subC tt.totalDeposit m) _ rfl (fun _ => rfl) h
    split
    · exact flagIdx_deactivate _ t hw
    · exact hw
  | deactivate t x => exact (deactivateOp_cases s t x).inv h fun _ ⟨_, _, _, _, e⟩ => e ▸ flagIdx_deactivate s t h
  | activate t x =>
    refine (activateOp_cases s t x).inv h fun _ ⟨tt, ht, _, _, _, e⟩ => e ▸ fun i => ?_
    simp only [mem_insertSorted, setTunnel, h i]
    split
    · rename_i e; simp [e]
    · rename_i e; simp [e]
  | create c init =>
    refine (createOp_cases s c init).inv h fun _ e => ?_
    have h1 : FlagIdx (created s c) := fun i => by
      -- the new id is not in the index: it held no tunnel
      simp only [created, setTunnel, h i]
      split
      · rename_i e; simp [e, hb]
      · rfl
    rcases e with rfl | rfl
    · exact h1
    · exact flagIdx_deposit _ _ c init h1

/-- PROPERTY (flag ⇔ index, over EVERY history): the end-blocker's active-tunnel index contains exactly the tunnels flagged
    active — no inactive tunnel is processed and no active tunnel is skipped -/
theorem active_flag_iff_index (ops : List Op) (s : State) (h : DInv s) (hf : FlagIdx s) (ok : ∀ op ∈ ops, OpOk s.accts op) :
    FlagIdx (ops.foldl apply s) :=
  (List.foldlRecOn ops apply (motive := fun s' => (DInv s' ∧ s'.accts = s.accts) ∧ FlagIdx s') ⟨⟨h, rfl⟩, hf⟩
    fun s' hs op hop =>
      have q := step_dinv s' op hs.1.1 (hs.1.2 ▸ ok op hop)
      ⟨⟨q.1, q.2.trans hs.1.2⟩, step_flagIdx s' op hs.2 fun i hi => (hs.1.1.beyond i hi).1⟩).2

/-! non-vacuity -/
def demo : State :=
  { tunnels := fun i => if i = 1 then some ⟨0, true, fun d => if d = "uband" then 120 else 0⟩ else none,
    deposits := fun i a => if i = 1 ∧ a = 0 then some (fun d => if d = "uband" then 70 else 0)
                           else if i = 1 ∧ a = 1 then some (fun d => if d = "uband" then 50 else 0) else none,
    activeIdx := [1], count := 1, bal := fun _ _ => 10, moduleBal := fun d => if d = "uband" then 120 else 0,
    minDeposit := fun d => if d = "uband" then 100 else 0, denoms := ["uband"], accts := [0, 1, 2] }
example : TotalEq demo := by
  intro tid d hd; simp [demo] at hd; subst hd
  by_cases h : tid = 1 <;> simp [tot, dep, demo, h]
/-- the demo state satisfies the history invariant (premises of `deposits_fully_backed` are satisfiable) -/
example : DInv demo := by
  refine ⟨?_, ?_, ?_, by decide⟩
  · intro tid d hd; simp [demo] at hd; subst hd
    by_cases h : tid = 1 <;> simp [tot, dep, demo, h]
  · intro d hd; simp [demo] at hd; subst hd; simp [demo, tot, List.range_succ]
  · intro i hi
    have : i ≠ 1 := by simp [demo] at hi; omega
    simp [demo, this]
example : FlagIdx demo := by
  intro tid
  by_cases h : tid = 1 <;> simp [demo, h]
example : (withdrawOp demo 1 1 (fun d => if d = "uband" then 21 else 0)).2 = Err.ok := by decide
example : ((withdrawOp demo 1 1 (fun d => if d = "uband" then 21 else 0)).1.activeIdx) = [] := by decide
example : (withdrawOp demo 1 1 (fun d => if d = "uband" then 51 else 0)).2 = Err.insufficientDeposit := by decide
example : (activateOp demo 1 1).2 = Err.invalidCreator := by decide

/-! ## genesis: a state accepted by the deposit clauses of `ValidateGenesis` is fully backed -/

/-- PROPERTY (a valid genesis is fully backed): if the deposit clauses accept, every tunnel's total deposit is, in every denom,
    the sum of the deposit records booked on it — in particular a tunnel with a positive total has a record -/
theorem valid_genesis_is_fully_backed (nd : Nat) (tunnels : List (Nat × List Nat)) (deps : List (Nat × Nat × List Nat))
    (h : genesisDepositsOk nd tunnels deps = true) (t : Nat × List Nat) (ht : t ∈ tunnels) (k : Nat) (hk : k < nd) :
    t.2.getD k 0 = (deps.filter (·.1 == t.1)).foldl (fun acc d => acc + d.2.2.getD k 0) 0 := by
  unfold genesisDepositsOk at h
  simp only [Bool.and_eq_true, List.all_eq_true, beq_iff_eq] at h
  exact h.2 t ht k (List.mem_range.mpr hk)

/-- … so a genesis in which a tunnel claims a positive total without any deposit record is rejected -/
theorem unbacked_genesis_rejected (nd : Nat) (tunnels : List (Nat × List Nat)) (deps : List (Nat × Nat × List Nat))
    (t : Nat × List Nat) (ht : t ∈ tunnels) (k : Nat) (hk : k < nd) (hpos : 0 < t.2.getD k 0)
    (hnone : ∀ d ∈ deps, d.1 ≠ t.1) : genesisDepositsOk nd tunnels deps = false := by
  cases hok : genesisDepositsOk nd tunnels deps with
  | false => rfl
  | true =>
    have := valid_genesis_is_fully_backed nd tunnels deps hok t ht k hk
    have he : deps.filter (·.1 == t.1) = [] := by
      apply List.filter_eq_nil_iff.mpr
      intro d hd
      simpa using hnone d hd
    rw [he] at this
    simp only [List.foldl_nil] at this
    omega

example : genesisDepositsOk 2 [(1, [100, 0]), (2, [0, 0])] [(1, 0, [60, 0]), (1, 1, [40, 0])] = true := by decide
example : genesisDepositsOk 2 [(1, [100, 0])] [] = false := by decide

/-- PROPERTY (an imported genesis is escrowed): `InitGenesis` accepts only when the tunnel module account holds, per denom,
    exactly what the genesis says it escrows (deposit records + fees); with even one unit missing anywhere — in particular
    with an EMPTY module account and a positive escrow — the import is refused -/
theorem imported_genesis_is_escrowed (escrowed balance : List Nat) :
    importBacked escrowed balance = true ↔ escrowed = balance := by
  exact beq_iff_eq

theorem empty_account_cannot_back_deposits (escrowed : List Nat) (k : Nat) (hpos : 0 < escrowed.getD k 0) :
    importBacked escrowed (List.replicate escrowed.length 0) = false := by
  cases h : importBacked escrowed (List.replicate escrowed.length 0) with
  | false => rfl
  | true =>
    have e := (imported_genesis_is_escrowed _ _).mp h
    rw [e] at hpos
    simp [List.getElem?_replicate] at hpos
    split at hpos <;> simp at hpos

example : importBacked [100, 0] [100, 0] = true ∧ importBacked [100, 0] [0, 0] = false ∧ importBacked [100, 0] [101, 0] = false := by decide

end C17
