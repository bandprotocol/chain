/-
C14 — block reward allocation conserves coins and pays only active participants.
Model: Model/Reward.lean (LegacyDec truncation semantics, per denom). Lemmas: Lemmas/Reward.lean.
Quantifier of the property: reward percentages 0..100, community tax 0..1, arbitrary pools/powers.
-/
import BandVerif.Lemmas.Reward
import BandVerif.Generated.ModuleOrder

namespace C14
open BandVerif.Reward

/-- oracle share: exactly ⌊pool·pct/100⌋ leaves the fee collector, never more than the pool (so the
    bank transfer cannot fail); the community fund and every validator reward are non-negative, no
    DecCoins `Sub` goes negative (no panic), the remainder handed to the proposer is non-negative, and
    everything transferred is accounted for: community fund + rewards + remainder = transferred. -/
theorem oracle_conserves (pool pct tax : Int) (powers : List Int) (o : OracleOut)
    (hpool : 0 ≤ pool) (h0 : 0 ≤ pct) (h100 : pct ≤ 100) (ht0 : 0 ≤ tax) (ht1 : tax ≤ E18)
    (hp : ∀ p ∈ powers, 0 ≤ p) (h : oracleAlloc pool pct tax powers = some o) :
    o.transferred = pool * pct / 100 ∧ 0 ≤ o.transferred ∧ o.transferred ≤ pool ∧
    0 ≤ o.communityFund ∧ o.communityFund ≤ o.transferred ∧
    (∀ r ∈ o.rewards, 0 ≤ r) ∧ 0 ≤ o.remaining ∧
    o.communityFund * E18 + o.rewards.sum + o.remaining = o.transferred * E18 := by
  obtain ⟨hz, X, hXe, rfl⟩ := oracleAlloc_some h
  have htot : 0 < powers.sum := lt_of_le_of_ne (List.sum_nonneg hp) (Ne.symm hz)
  obtain ⟨hs0, hs1⟩ := share_bounds pool pct hpool h0 h100
  generalize pool * pct / 100 = R at hs0 hs1 hXe ⊢
  have hRE : 0 ≤ R * E18 := mul_nonneg hs0 E18_pos.le
  have hcf0 : 0 ≤ truncInt (mulTrunc (R * E18) tax) := truncInt_nonneg (mulTrunc_nonneg hRE ht0)
  have hcf1 : truncInt (mulTrunc (R * E18) tax) ≤ R := truncInt_le (mulTrunc_le hRE ht1)
  have hX : 0 ≤ X := hXe ▸ sub_nonneg.mpr (mul_le_mul_of_nonneg_right hcf1 E18_pos.le)
  obtain ⟨hf1, hf2⟩ := fractions_le powers hp htot
  obtain ⟨hr1, hr2⟩ := rewards_le X powers _ hX hf2 hf1
  refine ⟨rfl, hs0, hs1, hcf0, hcf1, fun r hr => ?_, by dsimp only; linarith, by dsimp only; rw [hXe]; ring⟩
  obtain ⟨p, hpm, rfl⟩ := List.mem_map.mp hr
  exact hr2 p hpm

/-- nothing is allocated when no oracle-active validator voted (total active power 0) -/
theorem oracle_nothing_without_active (pool pct tax : Int) (powers : List Int) (h : powers.sum = 0) :
    oracleAlloc pool pct tax powers = none := by
  unfold oracleAlloc; simp [h]

/-- each rewarded validator gets at most its pro-rata share of the post-tax reward -/
theorem oracle_share_upper (X p P : Int) (hX : 0 ≤ X) (hp : 0 ≤ p) (hP : 0 < P) :
    mulTrunc X (quoTrunc (p * E18) (P * E18)) * P ≤ X * p := by
  have hE := E18_pos
  have hc : 0 < P * E18 := mul_pos hP hE
  generalize hq : quoTrunc (p * E18) (P * E18) = q
  have h1 : q * (P * E18) ≤ p * E18 * E18 := hq ▸ quoTrunc_mul_le _ hc
  -- both truncations only lose
  refine le_of_mul_le_mul_right ?_ (mul_pos hE hE)
  calc mulTrunc X q * P * (E18 * E18) = mulTrunc X q * E18 * (P * E18) := by ring
    _ ≤ X * q * (P * E18) := mul_le_mul_of_nonneg_right (mulTrunc_mul_le X q) hc.le
    _ = X * (q * (P * E18)) := by ring
    _ ≤ X * (p * E18 * E18) := mul_le_mul_of_nonneg_left h1 hX
    _ = X * p * (E18 * E18) := by ring

/-- bandtss share: exactly ⌊pool·pct/100⌋ leaves the fee collector; every eligible member gets the same
    non-negative integer amount; `n · perMember ≤ transferred`, so the `Coins.Sub` for the community
    fund cannot panic, and members + community fund = transferred. -/
theorem tss_conserves (pool pct tax n : Int) (o : TssOut)
    (hpool : 0 ≤ pool) (h0 : 0 ≤ pct) (h100 : pct ≤ 100) (ht0 : 0 ≤ tax) (ht1 : tax ≤ E18) (hn : 0 < n)
    (h : tssAlloc pool pct tax n = some o) :
    o.transferred = pool * pct / 100 ∧ 0 ≤ o.transferred ∧ o.transferred ≤ pool ∧
    0 ≤ o.perMember ∧ 0 ≤ o.communityFund ∧ o.perMember * n + o.communityFund = o.transferred := by
  obtain ⟨per, hper, rfl⟩ := tssAlloc_some h
  obtain ⟨hs0, hs1⟩ := share_bounds pool pct hpool h0 h100
  subst hper
  generalize pool * pct / 100 = R at hs0 hs1
  have hE := E18_pos
  have hRE : 0 ≤ R * E18 := mul_nonneg hs0 hE.le
  have hx0 : 0 ≤ mulTrunc (R * E18) (E18 - tax) := mulTrunc_nonneg hRE (by linarith)
  have hx1 : mulTrunc (R * E18) (E18 - tax) ≤ R * E18 := mulTrunc_le hRE (by linarith)
  have hf0 : 0 ≤ quoTrunc E18 (n * E18) := Int.ediv_nonneg (mul_nonneg hE.le hE.le) (mul_pos hn hE).le
  generalize mulTrunc (R * E18) (E18 - tax) = x at hx0 hx1
  -- a member's share is the oracle's pro-rata share at weight 1 of `n` …
  have hm : mulTrunc x (quoTrunc E18 (n * E18)) * n ≤ x := by
    have := oracle_share_upper x 1 n hx0 (by decide) hn
    rwa [mul_one] at this
  generalize quoTrunc E18 (n * E18) = f at hf0 hm
  -- … truncated once more to whole coins
  have hper1 : truncInt (mulTrunc x f) * n ≤ R := by
    refine le_of_mul_le_mul_right ?_ hE
    calc truncInt (mulTrunc x f) * n * E18 = truncInt (mulTrunc x f) * E18 * n := by ring
      _ ≤ mulTrunc x f * n := mul_le_mul_of_nonneg_right (truncInt_mul_le _) hn.le
      _ ≤ x := hm
      _ ≤ R * E18 := hx1
  exact ⟨rfl, hs0, hs1, truncInt_nonneg (mulTrunc_nonneg hx0 hf0), by dsimp only; linarith, by dsimp only; ring⟩

theorem tss_nothing_without_eligible (pool pct tax : Int) : tssAlloc pool pct tax 0 = none := by
  unfold tssAlloc; simp

/-- TIE TO SOURCE: begin-block order is mint → oracle → bandtss → distribution (regenerated from
    app/modules.go): the oracle share is taken first, bandtss takes its share of what remains, and the
    distribution module sees the rest. -/
theorem beginblock_order :
    let l := BandVerif.Generated.ModuleOrder.beginBlockers
    l.idxOf "minttypes" < l.idxOf "oracletypes" ∧ l.idxOf "oracletypes" < l.idxOf "bandtsstypes" ∧
    l.idxOf "bandtsstypes" < l.idxOf "distrtypes" ∧ l.idxOf "distrtypes" < l.length := by decide

/-! non-vacuity -/
example : oracleAlloc 1000 70 20000000000000000 [100, 1, 99] =
    some ⟨700, 14, [343000000000000000000, 3430000000000000000, 339570000000000000000], 0⟩ := by decide
example : tssAlloc 301 50 20000000000000000 3 = some ⟨150, 48, 6⟩ := by decide

end C14
