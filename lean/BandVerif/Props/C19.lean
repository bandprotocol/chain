/-
C19 — yoda files exactly one complete, chain-acceptable report per request.
Model: Model/Yoda.lean.
-/
import BandVerif.Model.Yoda
import BandVerif.Model.YodaSrc
import BandVerif.Generated.Yoda

namespace C19
open BandVerif.Yoda

/-- TIE to the source: normalised text of yoda's request handling and of the chain's report validation. -/
theorem generated_sources_match :
    BandVerif.Generated.Yoda.src_handleRequest = BandVerif.ExpectedSrc.Yoda.src_handleRequest ∧
    BandVerif.Generated.Yoda.src_handleRawRequests = BandVerif.ExpectedSrc.Yoda.src_handleRawRequests ∧
    BandVerif.Generated.Yoda.src_handleRawRequest = BandVerif.ExpectedSrc.Yoda.src_handleRawRequest ∧
    BandVerif.Generated.Yoda.src_GetExecutable = BandVerif.ExpectedSrc.Yoda.src_GetExecutable ∧
    BandVerif.Generated.Yoda.src_GetDataSourceHash = BandVerif.ExpectedSrc.Yoda.src_GetDataSourceHash ∧
    BandVerif.Generated.Yoda.src_GetRequest = BandVerif.ExpectedSrc.Yoda.src_GetRequest ∧
    BandVerif.Generated.Yoda.src_abciQuery = BandVerif.ExpectedSrc.Yoda.src_abciQuery ∧
    BandVerif.Generated.Yoda.src_CheckValidReport = BandVerif.ExpectedSrc.Yoda.src_CheckValidReport ∧
    BandVerif.Generated.Yoda.src_ReportValidateBasic = BandVerif.ExpectedSrc.Yoda.src_ReportValidateBasic := by
  refine ⟨?_, ?_, ?_, ?_, ?_, ?_, ?_, ?_, ?_⟩ <;> rfl

theorem reportsOf_eids (env : Env) (raws : List RawReq) (hs : List String) (h : hs.length = raws.length) :
    (reportsOf env raws hs).map (·.eid) = raws.map (·.eid) := by
  induction raws generalizing hs with
  | nil => cases hs <;> rfl
  | cons r rs ih =>
    cases hs with
    | nil => simp at h
    | cons x xs =>
      simp only [reportsOf, List.map_cons]
      rw [ih xs (by simpa using h)]
      unfold rawReportOf; split
      · rfl
      · split <;> rfl

theorem reportsOf_length (env : Env) (raws : List RawReq) (hs : List String) (h : hs.length = raws.length) :
    (reportsOf env raws hs).length = raws.length := by
  simpa using congrArg List.length (reportsOf_eids env raws hs h)

/-- the node serves the hash of every raw request's data source, in request order — or nothing is read -/
theorem hashesOf_eq_some {env : Env} {raws : List RawReq} {hs : List String} :
    hashesOf env raws = some hs ↔ raws.map (fun r => env.hashOf r.dsid) = hs.map some := by
  induction raws generalizing hs with
  | nil => cases hs <;> simp [hashesOf]
  | cons r rs ih =>
    cases hs with
    | nil => simp only [hashesOf]; split <;> simp
    | cons x xs =>
      simp only [hashesOf, List.map_cons, List.cons.injEq, ← ih]
      cases env.hashOf r.dsid <;> cases hashesOf env rs <;> simp

theorem hashesOf_length (env : Env) (raws : List RawReq) (hs : List String) (h : hashesOf env raws = some hs) : hs.length = raws.length := by
  simpa using (congrArg List.length (hashesOf_eq_some.mp h)).symm

/-- a report is queued exactly for a request that selects this validator and whose data-source hashes the node serves -/
theorem handleRequest_eq_some {env : Env} {me : Nat} {vals : List Nat} {raws : List RawReq} {reps : List RawRep} :
    handleRequest env me vals raws = some reps ↔ me ∈ vals ∧ ∃ hs, hashesOf env raws = some hs ∧ reps = reportsOf env raws hs := by
  unfold handleRequest
  by_cases c : me ∈ vals
  · cases hh : hashesOf env raws <;> simp [c, eq_comm]
  · simp [c]

/-- PROPERTY (exactly one raw report per raw request, matching external id): whenever yoda queues a report it has, in
    request order, one raw report per raw request with that request's external id. -/
theorem one_raw_report_per_raw_request (env : Env) (me : Nat) (vals : List Nat) (raws : List RawReq) (reps : List RawRep)
    (h : handleRequest env me vals raws = some reps) :
    reps.length = raws.length ∧ reps.map (·.eid) = raws.map (·.eid) := by
  obtain ⟨_, hs, hh, rfl⟩ := handleRequest_eq_some.mp h
  have hl := hashesOf_length env raws hs hh
  exact ⟨reportsOf_length env raws hs hl, reportsOf_eids env raws hs hl⟩

/-- PROPERTY (content): each raw report carries the executor's exit code and output, or 255 when the data source could not
    be loaded (`FAIL_TO_LOAD_DATA_SOURCE`) or the executor failed (empty data). -/
theorem raw_report_content (env : Env) (r : RawReq) (hash : String) :
    (env.loadable hash = false → rawReportOf env r hash = ⟨r.eid, 255, failToLoad⟩) ∧
    (env.loadable hash = true → ∀ c o, env.exec r = .ok c o → rawReportOf env r hash = ⟨r.eid, c, o⟩) ∧
    (env.loadable hash = true → env.exec r = .error → rawReportOf env r hash = ⟨r.eid, 255, ""⟩) := by
  unfold rawReportOf
  refine ⟨fun h => by simp [h], fun h c o he => by simp [h, he], fun h he => by simp [h, he]⟩

/-- PROPERTY (never dropped): a request that selects this validator and whose metadata the node serves always yields a
    report; a request that does not select it yields none. -/
theorem report_iff_selected (env : Env) (me : Nat) (vals : List Nat) (raws : List RawReq)
    (hmeta : ∀ r ∈ raws, (env.hashOf r.dsid).isSome) :
    (handleRequest env me vals raws).isSome ↔ me ∈ vals := by
  have hx : hashesOf env raws = some (raws.map fun r => (env.hashOf r.dsid).getD "") := hashesOf_eq_some.mpr (by
    rw [List.map_map]
    exact List.map_congr_left fun r hr => by
      obtain ⟨x, e⟩ := Option.isSome_iff_exists.mp (hmeta r hr); simp [e])
  rw [Option.isSome_iff_exists]
  exact ⟨fun ⟨_, h⟩ => (handleRequest_eq_some.mp h).1, fun c => ⟨_, handleRequest_eq_some.mpr ⟨c, _, hx, rfl⟩⟩⟩

/-- PROPERTY (chain-acceptable, in ANY completion order): for a request with at least one raw request and distinct
    external ids that selects this validator (and has no report from it yet), the queued report — in whatever order the
    concurrent executions finished — passes `ValidateBasic` and `CheckValidReport`. -/
theorem report_is_chain_acceptable (env : Env) (me : Nat) (vals : List Nat) (raws : List RawReq) (reps perm : List RawRep)
    (h : handleRequest env me vals raws = some reps) (hne : raws ≠ []) (hnd : (raws.map (·.eid)).Nodup)
    (hp : perm.Perm reps) :
    validateBasic perm = true ∧ checkValid me vals false raws perm = true := by
  obtain ⟨hl, he⟩ := one_raw_report_per_raw_request env me vals raws reps h
  have hme : me ∈ vals := (handleRequest_eq_some.mp h).1
  have hpe : (perm.map (·.eid)).Perm (raws.map (·.eid)) := he ▸ hp.map _
  constructor
  · unfold validateBasic
    rw [Bool.and_eq_true]
    constructor
    · have : perm.length = raws.length := by rw [hp.length_eq, hl]
      cases hperm : perm with
      | nil => rw [hperm] at this; cases raws with | nil => exact absurd rfl hne | cons a b => simp at this
      | cons a b => rfl
    · exact decide_eq_true (hpe.nodup_iff.mpr hnd)
  · unfold checkValid
    simp only [Bool.and_eq_true, decide_eq_true_eq, Bool.not_false, and_true]
    refine ⟨⟨hme, by rw [hp.length_eq, hl]⟩, ?_⟩
    rw [List.all_eq_true]
    intro rep hrep
    rw [List.any_eq_true]
    have : rep.eid ∈ raws.map (·.eid) := hpe.mem_iff.mp (List.mem_map_of_mem hrep)
    obtain ⟨r, hr, hre⟩ := List.mem_map.mp this
    exact ⟨r, hr, by simp [hre]⟩

/-! non-vacuity -/
def demoEnv : Env := { hashOf := fun d => if d = 9 then none else some s!"h{d}", loadable := fun h => h != "h2",
                       exec := fun r => if r.calldata = "boom" then .error else .ok 0 ("out:" ++ r.calldata) }
example : handleRequest demoEnv 1 [1, 2] [⟨1, 1, "a"⟩, ⟨2, 2, "b"⟩, ⟨3, 1, "boom"⟩] =
    some [⟨1, 0, "out:a"⟩, ⟨2, 255, failToLoad⟩, ⟨3, 255, ""⟩] := by decide
example : handleRequest demoEnv 3 [1, 2] [⟨1, 1, "a"⟩] = none := by decide

end C19
