/-
C12 — relay proofs verify against the real store layout, header and signatures.
Model: Model/Relay.lean.  Lemmas: Lemmas/Relay.lean.  `H` is the hash (SHA-256 in the driver), a parameter of every theorem.
-/
import BandVerif.Lemmas.Relay
import BandVerif.Generated.StoreKeys

namespace C12
open BandVerif BandVerif.Relay

/-- TIE to the source: the KV stores mounted by the CURRENT tree (app/keepers.GenerateKeys, executed), sorted as
    the commit-info tree orders them, put `oracle` at leaf 17 of 27 with exactly the neighbours the six fields of
    MultiStoreProof are named after; and GetMultiStoreProof reads its fields from the positions the theorems use. -/
theorem generated_matches_model :
    Generated.StoreKeys.sorted.length = 27 ∧ Generated.StoreKeys.sorted.idxOf "oracle" = 17 ∧
    Generated.StoreKeys.sorted[16]? = some "mint" ∧
    Generated.StoreKeys.sorted[18]? = some "params" ∧ Generated.StoreKeys.sorted[19]? = some "restake" ∧
    Generated.StoreKeys.sorted[20]? = some "rollingseed" ∧ Generated.StoreKeys.sorted[23]? = some "transfer" ∧
    Generated.StoreKeys.sorted[24]? = some "tss" ∧ Generated.StoreKeys.sorted[26]? = some "upgrade" ∧
    Generated.StoreKeys.sorted[0]? = some "acc" ∧ Generated.StoreKeys.sorted[15]? = some "icahost" ∧
    Generated.StoreKeys.sorted.Pairwise (· < ·) ∧
    Generated.StoreKeys.read_OracleIAVLStateHash = (0, "value") ∧
    Generated.StoreKeys.read_MintStoreMerkleHash = (0, "prefix-after-first-byte") ∧
    Generated.StoreKeys.read_ParamsToRestakeStoresMerkleHash = (1, "suffix") ∧
    Generated.StoreKeys.read_RollingseedToTransferStoresMerkleHash = (2, "suffix") ∧
    Generated.StoreKeys.read_TssToUpgradeStoresMerkleHash = (3, "suffix") ∧
    Generated.StoreKeys.read_AuthToIcahostStoresMerkleHash = (4, "prefix-after-first-byte") := by decide +kernel

/-- the ICS-23 existence-proof path of leaf 17 in a 27-leaf RFC-6962 tree: inner-op prefix 0x01, sibling on the
    left inside the prefix or on the right as suffix -/
def oraclePath (s16 s1819 s2023 s2426 s0015 : Bytes) : List Step :=
  [⟨1 :: s16, []⟩, ⟨[1], s1819⟩, ⟨[1], s2023⟩, ⟨[1], s2426⟩, ⟨1 :: s0015, []⟩]

/-- PROPERTY (multistore): for ANY contents of the 27 mounted stores, the bridge's fixed recombination of the oracle
    store root with the five siblings that GetMultiStoreProof reads from the proof path equals the root of the whole
    commit-info tree — the block's app hash. -/
theorem multistore_recombine (H : Bytes → Bytes) (f : Nat → Bytes) (oracleRoot : Bytes)
    (h17 : f 17 = storeLeaf H [111, 114, 97, 99, 108, 101] oracleRoot) :
    appHash H (getMultiStoreProof oracleRoot
      (oraclePath (leafHash H (f 16)) (simpleRoot H [f 18, f 19]) (simpleRoot H [f 20, f 21, f 22, f 23])
        (simpleRoot H [f 24, f 25, f 26]) (simpleRoot H ((List.range 16).map f)))) =
    simpleRoot H ((List.range 27).map f) := by
  -- 27 leaves split 16 + 11, the right part 8 + 3, then 4 + 4, 2 + 2, 1 + 1 down to leaf 17 = 16 + 1, whose siblings on the way up
  -- are leaf 16, the roots of 18..19, 20..23, 24..26 (3 = 2 + 1) and 0..15: the split rule unfolds both sides to the same
  -- expression, with `f 17` the oracle store's leaf (`h17`; the name bytes spell "oracle")
  simp [appHash, getMultiStoreProof, oraclePath, stepAt, ← h17, simpleRoot_split, splitPoint, splitGo, simpleRoot_single,
    List.range, List.range.loop]

/-- PROPERTY (header): the five sub-hashes GetBlockHeaderMerkleParts returns, recombined by the bridge with the raw
    height, time and app hash, give the block hash (the RFC-6962 root of the 14 header fields), for every header. -/
theorem header_recombine (H : Bytes → Bytes) (hd : Header) (hh : hd.height ≠ 0) (ha : hd.appHash.length = 32) :
    blockHash H (headerParts H hd) hd.appHash = headerHash H hd := by
  -- the bridge writes the height leaf as 8‖uvarint and the app-hash leaf as [10, 32]‖hash unconditionally; the header's own
  -- leaves are these only for a non-zero height (`hh`, protobuf omits a zero field) and a 32-byte hash (`ha`)
  have e1 : pbVarint 8 hd.height = 8 :: uvarint hd.height := by rw [pbVarint, if_neg hh]
  have e2 : cdcBytes hd.appHash = [10, 32] ++ hd.appHash := by rw [← ha]; exact pbBytes_small 10 _ (by omega) (by omega)
  -- 14 leaves split 8 + 6, the left part 4 + 4 and 2 + 2, the right part 4 + 2 and 2 + 2: `headerParts` holds the roots of leaves
  -- 0..1, 4..7, 8..9, 11 and 12..13, the bridge supplies leaves 2, 3 and 10; the split rule unfolds both sides to the same expression
  simp [blockHash, headerParts, headerHash, headerLeaves, e1, e2, simpleRoot_split, splitPoint, splitGo, simpleRoot_single]

/-- PROPERTY (IAVL path): GetMerklePaths parses every inner step back into exactly (side, height, size, version,
    sibling), and the bridge's re-hash of those five values equals the ICS-23 hash prefix‖child‖suffix of the step —
    so folding the returned path from the value leaf reproduces the oracle store root the node proved. -/
theorem iavl_step_sound (H : Bytes → Bytes) (h sz v : Nat) (sib child : Bytes) (right : Bool)
    (hh : h < 256) (hs : sz < 2 ^ 63) (hv : v < 2 ^ 63) :
    merklePathOf (iavlStep h sz v sib right) = some { isDataOnRight := right, height := h, size := sz, version := v, sibling := sib } ∧
    iavlRoot H child [{ isDataOnRight := right, height := h, size := sz, version := v, sibling := sib }] =
      H ((iavlStep h sz v sib right).pre ++ child ++ (iavlStep h sz v sib right).suf) := by
  cases right <;>
    simp [iavlStep, iavlRoot, merklePathOf_header h sz v _ _ (by omega) hs hv, Nat.mod_eq_of_lt hh]

/-- PROPERTY (IAVL, end to end): for EVERY tree whose fields fit their Go types and EVERY walk from its root to a leaf,
    the existence proof the node serves for that leaf is parsed by GetMerklePaths without failure, and the bridge's fold
    of the parsed path from the leaf's hash IS the root hash of the tree (induction over the tree; any depth). -/
theorem iavl_path_sound (H : Bytes → Bytes) (t : ITree) (dirs : List Bool) (lf : ITree) (steps : List Step)
    (wf : t.WF) (hw : t.walk H dirs = some (lf, steps)) :
    ∃ ps, getMerklePaths steps = some ps ∧ iavlRoot H (lf.hash H) ps = t.hash H := by
  -- the cases of `walk`: the leaf reached, a step into the child the direction chooses (`ih` speaks of that child), and where
  -- `walk` fails
  fun_induction ITree.walk H t dirs generalizing lf steps with
  | case1 k v ver => cases hw; exact ⟨[], rfl, rfl⟩
  | case4 h s v l r d ds lf' st hcw ih =>
    cases hw
    obtain ⟨hh, hs, hv, wl, wr⟩ := wf
    obtain ⟨ps, g1, g2⟩ := ih _ _ (by cases d <;> assumption) hcw
    obtain ⟨m1, m2⟩ := iavl_step_sound H h s v ((if d then l else r).hash H) ((if d then r else l).hash H) d hh hs hv
    exact ⟨ps ++ [⟨d, h, s, v, (if d then l else r).hash H⟩], getMerklePaths_append g1 (by simp only [getMerklePaths, m1]),
      by rw [iavlRoot_append, g2, m2, ITree.hash_inner H h s v l r d]⟩
  | case2 | case3 | case5 => cases hw

/-- the leaf the bridge hashes for a stored oracle result IS the IAVL leaf of key 0xff‖be64(id) -/
theorem result_leaf_is_tree_leaf (H : Bytes → Bytes) (version rid : Nat) (value : Bytes) :
    resultLeafHash H version rid value = (ITree.leaf ([255] ++ be64 rid) value version).hash H := by
  unfold resultLeafHash ITree.hash
  have : ([255] ++ be64 rid).length = 9 := by simp [be64]
  rw [this, uvarint_small 9 (by decide)]
  simp [List.append_assoc]

/-- PROPERTY (composition): a stored oracle result anywhere in ANY well-formed oracle IAVL tree, in ANY commit of the 27
    mounted stores whose oracle leaf is that tree, under ANY header carrying that commit's app hash: what the proof
    service extracts (IAVL path, multistore siblings, header parts), recombined by the bridge's three fixed routines
    starting from the result's own bytes, is the block hash the validators signed. -/
theorem result_proof_reaches_block_hash (H : Bytes → Bytes) (t : ITree) (dirs : List Bool) (steps : List Step)
    (version rid : Nat) (value : Bytes) (wf : t.WF)
    (hw : t.walk H dirs = some (.leaf ([255] ++ be64 rid) value version, steps))
    (f : Nat → Bytes) (h17 : f 17 = storeLeaf H [111, 114, 97, 99, 108, 101] (t.hash H))
    (hd : Header) (hh : hd.height ≠ 0) (hlen : hd.appHash.length = 32)
    (happ : hd.appHash = simpleRoot H ((List.range 27).map f)) :
    ∃ ps, getMerklePaths steps = some ps ∧
      blockHash H (headerParts H hd)
        (appHash H (getMultiStoreProof (iavlRoot H (resultLeafHash H version rid value) ps)
          (oraclePath (leafHash H (f 16)) (simpleRoot H [f 18, f 19]) (simpleRoot H [f 20, f 21, f 22, f 23])
            (simpleRoot H [f 24, f 25, f 26]) (simpleRoot H ((List.range 16).map f))))) = headerHash H hd := by
  obtain ⟨ps, g1, g2⟩ := iavl_path_sound H t dirs _ steps wf hw
  refine ⟨ps, g1, ?_⟩
  rw [result_leaf_is_tree_leaf, g2, multistore_recombine H f (t.hash H) h17, ← happ]
  exact header_recombine H hd hh hlen

/-- PROPERTY (signatures): for every height, round, block id, vote timestamp and chain id that fit the fixed vote format
    (32-byte hashes, part-set total 1..127, whole vote shorter than 128 bytes), the message the bridge rebuilds from
    the common prefix/suffix, the per-signature encoded timestamp and the chain id IS cometbft's canonical precommit
    sign-bytes — so a returned signature recovers exactly the validator that signed that precommit. -/
theorem vote_bytes_rebuild (height round total sec nanos : Nat) (hash psh chain : Bytes)
    (hhash : hash.length = 32) (hpsh : psh.length = 32) (ht : 0 < total ∧ total < 128) (hc : 0 < chain.length ∧ chain.length < 128)
    (hts : (encodeTime sec nanos).length < 128)
    (hbody : ([8, 2] ++ (if height = 0 then [] else 17 :: sfixed64 height) ++ (if round = 0 then [] else 25 :: sfixed64 round)).length +
        74 + (2 + (encodeTime sec nanos).length) + (2 + chain.length) < 128) :
    voteMessage (commonVote height round total psh).1 (commonVote height round total psh).2 hash (encodeTime sec nanos) chain =
      canonicalVoteBytes height round hash total psh sec nanos chain := by
  -- the 74 of `hbody`: field tag 34, length byte 72, and the 72-byte block id (34 for the hash field, 38 for the part-set header)
  simp only [voteMessage, commonVote, canonicalVoteBytes, getPrefix_eq, pbVarint_small 8 2 (by decide) (by decide),
    pbVarint_small 8 total (by omega) ht.2, pbBytes_small 18 psh (by omega) (by omega), pbBytes_small 10 hash (by omega) (by omega),
    pbBytes_small 50 chain hc.1 hc.2]
  generalize ([8, 2] ++ (if height = 0 then [] else 17 :: sfixed64 height) ++ (if round = 0 then [] else 25 :: sfixed64 round) : Bytes) = pp at hbody
  -- every length that is written as a varint is below 128, hence one byte
  simp (disch := omega) [uvarint_small, hhash, hpsh, Nat.mod_eq_of_lt]

/-! non-vacuity: the hypotheses are met by ordinary values -/
example : (encodeTime 1700000000 5).length = 8 := by simp [encodeTime, pbVarint, uvarint]
example : ([8, 2] ++ (if (3 : Nat) = 0 then [] else 17 :: sfixed64 3) ++ (if (0 : Nat) = 0 then [] else 25 :: sfixed64 0) : Bytes).length + 74 + (2 + 8) + (2 + 9) < 128 := by
  decide
example : merklePathOf (iavlStep 3 8 2 (List.replicate 32 7) true) =
    some { isDataOnRight := true, height := 3, size := 8, version := 2, sibling := List.replicate 32 7 } :=
  (iavl_step_sound (fun b => b) 3 8 2 (List.replicate 32 7) [] true (by decide) (by decide) (by decide)).1
example : (ITree.inner 1 2 5 (.leaf [255, 0, 0, 0, 0, 0, 0, 0, 1] [7] 4) (.leaf [255, 0, 0, 0, 0, 0, 0, 0, 2] [8] 5)).WF ∧
    ((ITree.inner 1 2 5 (.leaf [255, 0, 0, 0, 0, 0, 0, 0, 1] [7] 4) (.leaf [255, 0, 0, 0, 0, 0, 0, 0, 2] [8] 5)).walk (fun b => b) [true]).isSome = true := by
  refine ⟨⟨by decide, by decide, by decide, by simp [ITree.WF], by simp [ITree.WF]⟩, by decide⟩
example : splitPoint 27 = 16 ∧ splitPoint 14 = 8 ∧ splitPoint 11 = 8 ∧ splitPoint 3 = 2 := by decide

end C12
