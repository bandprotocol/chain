/- `Guarded` is the contract of a message handler of type `σ → args → σ × ε` — the new state and an error code, the old
   state being returned with every error (handlers that return `Except`, `Option` or further components are not of this
   shape and are treated where they stand).  The strongest `Q` is proved once per handler (`*_cases`); what a handler
   admits is its `.1`, "rejected changes nothing" its `.2`, an invariant step its `inv`.  Core only. -/
namespace BandVerif

/-- `r` is the outcome of a handler run in `s`: accepted with a post-state satisfying `Q`, or rejected with `s` unchanged -/
def Guarded {σ ε : Type} (ok : ε) (s : σ) (r : σ × ε) (Q : σ → Prop) : Prop :=
  (r.2 = ok → Q r.1) ∧ (r.2 ≠ ok → r.1 = s)

namespace Guarded
variable {σ ε : Type} {ok e : ε} {s post : σ} {r : σ × ε} {Q P : σ → Prop}

theorem accept (q : Q post) : Guarded ok s (post, ok) Q := ⟨fun _ => q, fun h => absurd rfl h⟩

theorem reject (he : e ≠ ok) : Guarded ok s (s, e) Q := ⟨fun h => absurd h he, fun _ => rfl⟩

/-- one guard of a handler written as an `if` chain (cheaper to check than `split` on the whole chain) -/
theorem ite {x : σ × ε} {c : Prop} [Decidable c] (he : e ≠ ok) (h : ¬c → Guarded ok s x Q) :
    Guarded ok s (if c then (s, e) else x) Q := by
  split
  · exact .reject he
  · exact h ‹_›

theorem inv [DecidableEq ε] (h : Guarded ok s r Q) (hs : P s) (hp : ∀ s', Q s' → P s') : P r.1 :=
  if e : r.2 = ok then hp _ (h.1 e) else h.2 e ▸ hs

end Guarded
end BandVerif
