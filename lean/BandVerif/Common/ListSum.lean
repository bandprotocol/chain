/- Sums of lists: the three facts about `List.map` over `Nat` that the ledger arguments use; over `Int`, one summand
   replaced and non-negativity.  Core only. -/
namespace BandVerif

theorem sum_map_le_sum_map {α : Type} (l : List α) (f g : α → Nat) (h : ∀ x ∈ l, f x ≤ g x) :
    (l.map f).sum ≤ (l.map g).sum := by
  induction l with
  | nil => exact Nat.le_refl _
  | cons x xs ih =>
    have := h x (List.mem_cons_self ..)
    have := ih fun y hy => h y (List.mem_cons_of_mem _ hy)
    simp only [List.map_cons, List.sum_cons]; omega

theorem le_sum_map_of_mem {α : Type} (l : List α) (f : α → Nat) (a : α) (ha : a ∈ l) : f a ≤ (l.map f).sum := by
  induction l with
  | nil => cases ha
  | cons x xs ih =>
    simp only [List.map_cons, List.sum_cons]
    rcases List.mem_cons.mp ha with rfl | h
    · omega
    · have := ih h; omega

/-- moving `x` in and `y` out at one entry of a duplicate-free index list moves the sum by the same amounts
    (the two-sided form serves additions, truncated subtractions and inequalities alike) -/
theorem sum_map_move {α : Type} (l : List α) (f f' : α → Nat) (a : α) (x y : Nat) (hn : l.Nodup) (ha : a ∈ l)
    (hs : ∀ b ∈ l, b ≠ a → f' b = f b) (hx : f' a + y = f a + x) : (l.map f').sum + y = (l.map f).sum + x := by
  induction l with
  | nil => cases ha
  | cons z zs ih =>
    have hz := List.nodup_cons.mp hn
    simp only [List.map_cons, List.sum_cons]
    by_cases e : z = a
    · subst e
      rw [List.map_congr_left fun b hb => hs b (List.mem_cons_of_mem _ hb) fun e => hz.1 (e ▸ hb)]; omega
    · have := ih hz.2 ((List.mem_cons.mp ha).resolve_left (Ne.symm e)) fun b hb => hs b (List.mem_cons_of_mem _ hb)
      rw [hs z (List.mem_cons_self ..) e]; omega

/-- one summand of a sum over a duplicate-free list replaced (`sum_map_move` over `Int`, where it is an equation) -/
theorem sum_map_update {α : Type} (l : List α) (f f' : α → Int) (a : α) (hn : l.Nodup) (ha : a ∈ l)
    (hs : ∀ b ∈ l, b ≠ a → f' b = f b) : (l.map f').sum = (l.map f).sum - f a + f' a := by
  induction l with
  | nil => cases ha
  | cons x xs ih =>
    have hx := List.nodup_cons.mp hn
    simp only [List.map_cons, List.sum_cons]
    by_cases e : x = a
    · subst e
      rw [List.map_congr_left fun b hb => hs b (List.mem_cons_of_mem _ hb) fun e => hx.1 (e ▸ hb)]; omega
    · have := ih hx.2 ((List.mem_cons.mp ha).resolve_left (Ne.symm e)) fun b hb => hs b (List.mem_cons_of_mem _ hb)
      rw [hs x (List.mem_cons_self ..) e]; omega

theorem sum_nonneg_of (l : List Int) (h : ∀ x ∈ l, 0 ≤ x) : 0 ≤ l.sum := by
  induction l with
  | nil => exact Int.le_refl _
  | cons x xs ih =>
    have := h x (List.mem_cons_self ..)
    have := ih fun y hy => h y (List.mem_cons_of_mem _ hy)
    simp only [List.sum_cons]; omega

theorem sum_map_nonneg {α : Type} (l : List α) (f : α → Int) (h : ∀ x ∈ l, 0 ≤ f x) : 0 ≤ (l.map f).sum :=
  sum_nonneg_of _ (List.forall_mem_map.mpr h)

end BandVerif
