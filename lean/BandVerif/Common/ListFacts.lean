/- List facts that core does not have: appending a new element to a duplicate-free list, or inserting it if absent; the
   prefix that `takeWhile` keeps; a prefix and the rest of a list with distinct keys; a fold that writes a function at one
   point per element.  Core only. -/
namespace BandVerif

theorem nodup_concat {α : Type _} {l : List α} {x : α} (h : l.Nodup) (hx : x ∉ l) : (l ++ [x]).Nodup :=
  List.nodup_append.mpr ⟨h, List.pairwise_singleton .., fun _ ha _ hb e => hx (List.mem_singleton.mp hb ▸ e ▸ ha)⟩

theorem nodup_ite_concat {α : Type _} [DecidableEq α] {l : List α} (x : α) (h : l.Nodup) :
    (if x ∈ l then l else l ++ [x]).Nodup := by
  split
  · exact h
  · exact nodup_concat h ‹_›

theorem mem_ite_concat {α : Type _} [DecidableEq α] (l : List α) (x y : α) :
    y ∈ (if x ∈ l then l else l ++ [x]) ↔ y ∈ l ∨ y = x := by
  split
  · rename_i hx; exact ⟨.inl, fun h => h.elim id (· ▸ hx)⟩
  · simp

theorem takeWhile_congr_mem {α : Type _} {p q : α → Bool} {l : List α} (h : ∀ x ∈ l, p x = q x) : l.takeWhile p = l.takeWhile q := by
  induction l with
  | nil => rfl
  | cons x r ih =>
    rw [List.takeWhile_cons, List.takeWhile_cons, h x (List.mem_cons_self ..), ih fun y hy => h y (List.mem_cons_of_mem _ hy)]

theorem take_length_takeWhile {α : Type _} (p : α → Bool) (l : List α) : l.take (l.takeWhile p).length = l.takeWhile p :=
  (List.prefix_iff_eq_take.mp (List.takeWhile_prefix p)).symm

theorem drop_length_takeWhile {α : Type _} (p : α → Bool) (l : List α) : l.drop (l.takeWhile p).length = l.dropWhile p := by
  have := List.drop_left (l₁ := l.takeWhile p) (l₂ := l.dropWhile p)
  rwa [List.takeWhile_append_dropWhile] at this

theorem not_of_getElem?_length_takeWhile {α : Type _} {p : α → Bool} {l : List α} {x : α} (h : l[(l.takeWhile p).length]? = some x) :
    p x = false := by
  rw [← List.head?_drop, drop_length_takeWhile] at h
  have := List.head?_dropWhile_not p l
  rw [h] at this; exact this

theorem mem_takeWhile_of_pairwise {α : Type _} {R : α → α → Prop} {p : α → Bool} {l : List α} (hl : l.Pairwise R)
    (hR : ∀ y ∈ l, ∀ x ∈ l, R y x → p x = true → p y = true) {x : α} (hx : x ∈ l) (hp : p x = true) : x ∈ l.takeWhile p := by
  induction l with
  | nil => cases hx
  | cons y r ih =>
    have hy := List.pairwise_cons.mp hl
    rcases List.mem_cons.mp hx with rfl | hr
    · rw [List.takeWhile_cons_of_pos hp]; exact List.mem_cons_self ..
    · rw [List.takeWhile_cons_of_pos (hR y (List.mem_cons_self ..) x hx (hy.1 x hr) hp)]
      exact List.mem_cons_of_mem _ (ih hy.2 (fun a ha b hb => hR a (List.mem_cons_of_mem _ ha) b (List.mem_cons_of_mem _ hb)) hr)

theorem take_drop_disjoint {α β : Type} (f : α → β) (l : List α) (k : Nat) (h : (l.map f).Nodup) (x : β)
    (hx : x ∈ (l.take k).map f) : x ∉ (l.drop k).map f := by
  rw [← List.take_append_drop k l, List.map_append] at h
  exact fun hy => (List.nodup_append.mp h).2.2 x hx x hy rfl

theorem mem_drop_not_take {α : Type} (l : List α) (k : Nat) (h : l.Nodup) (x : α) (hx : x ∈ l.drop k) : x ∉ l.take k :=
  fun hy => take_drop_disjoint id l k (by rwa [List.map_id]) x (by rwa [List.map_id]) (by rwa [List.map_id])

/-- a loop that writes one point of a function for every element satisfying `c`: a point whose value changed was written -/
theorem foldl_write_ne {α ι β : Type _} [DecidableEq ι] (c : α → Prop) [DecidablePred c] (k : α → ι) (g : (ι → β) → α → β)
    (l : List α) (f : ι → β) (i : ι)
    (h : l.foldl (fun f x => if c x then fun j => if j = k x then g f x else f j else f) f i ≠ f i) :
    ∃ x ∈ l, c x ∧ k x = i :=
  List.foldlRecOn l _ (motive := fun f' : ι → β => f' i ≠ f i → ∃ x ∈ l, c x ∧ k x = i) (fun h => absurd rfl h)
    (fun f' ih x hx h' => by
      by_cases hc : c x ∧ k x = i
      · exact ⟨x, hx, hc⟩
      · -- this step left point `i` alone, so an earlier one wrote it
        refine ih fun e => h' (Eq.trans ?_ e)
        split
        · exact if_neg fun e => hc ⟨‹_›, e.symm⟩
        · rfl) h

end BandVerif
