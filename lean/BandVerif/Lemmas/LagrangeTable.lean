/- C03: the TABLE routine of pkg/tss (lagrange.ComputeCoefficientPreCompute, used when every id is at most 20), its two
   loops.  The first accumulates an exponent vector, given in closed form (`countsOf_eq`); `val` is the value of an exponent
   vector in the field of scalars, a homomorphism (`val_add`, `val_sub`) that takes the factor table's row of n to n (`val_vexp`).
   The second is the product loop over the vector, which returns and cannot overflow int64 as long as every exponent is within
   the precomputed power tables (`loop_spec`).  Mathlib. -/
import BandVerif.Lemmas.LagrangeGeneric

namespace BandVerif.Lagrange
open BandVerif.Generated

/-- the value in the field of scalars of an exponent vector over 0..19.  Index 0 is in the range (as in the Go array) but is
    never a table prime: the lemmas on sums of exponent vectors (`val_add`, `val_sub`) assume `c 0 = 0`, for
    `(0 : ZMod N) ^ e` is not additive in `e` -/
noncomputable def val (c : Nat → Int) : ZMod N := ∏ k ∈ Finset.range 20, ((k : ZMod N)) ^ (c k)

theorem val_add (c d : Nat → Int) (hc : c 0 = 0) (hd : d 0 = 0) : val (fun k => c k + d k) = val c * val d := by
  unfold val
  rw [← Finset.prod_mul_distrib]
  apply Finset.prod_congr rfl
  intro k hk
  by_cases h0 : k = 0
  · subst h0; simp [hd]
  · have hk := Finset.mem_range.mp hk
    have := factorial_20; have := N_bounds.1
    exact zpow_add₀ (Int.cast_natCast (R := ZMod N) k ▸ cast_ne_zero k (by omega) (by omega)) _ _

theorem val_zero : val (fun _ => 0) = 1 := by unfold val; simp

/-- subtraction of exponent vectors is division of values: `val c * val (-d) = val (c - d)` and `val d * val (-d) = 1`, both by `val_add` -/
theorem val_sub (c d : Nat → Int) (hc : c 0 = 0) (hd : d 0 = 0) : val (fun k => c k - d k) = val c * (val d)⁻¹ := by
  have hn : val (fun k => - d k) = (val d)⁻¹ :=
    eq_inv_of_mul_eq_one_right (by rw [← val_add _ _ hd (by rw [hd]; rfl)]; simp only [add_neg_cancel]; exact val_zero)
  simp only [sub_eq_add_neg]
  rw [val_add _ _ hc (by rw [hd]; rfl), hn]

/-- add `c` times the exponents of a factor list to an exponent vector (`c = 1`, `c = -1`: the two inner loops of the table
    routine) -/
def updF (c : Int) (acc : Nat → Int) (l : List (Nat × Nat)) : Nat → Int :=
  l.foldl (fun (cnt : Nat → Int) v => fun p => if p = v.1 then cnt p + c * v.2 else cnt p) acc

/-- exponent of k in a factor list -/
def expOf (k : Nat) (l : List (Nat × Nat)) : Nat := ((l.filter (fun v => v.1 == k)).map (·.2)).sum

theorem updF_apply (c : Int) (l : List (Nat × Nat)) (acc : Nat → Int) (k : Nat) : updF c acc l k = acc k + c * (expOf k l : Int) := by
  induction l generalizing acc with
  | nil => simp [updF, expOf]
  | cons v vs ih =>
    rw [updF, List.foldl_cons, ← updF, ih]
    unfold expOf
    by_cases e : v.1 = k
    · subst e; simp; ring
    · simp [e, Ne.symm e]

/-- exponent of k in n according to the factor table (for a table prime k: the k-adic valuation of n) -/
def vexp (k n : Nat) : Nat := expOf k (factorsOf n)

/-- the factor table: the listed prime powers of every n in 1..20 multiply back to n, and 0 is never listed (said of the
    exponent as an `Int`: the hypothesis of `val_add` for this vector) -/
theorem val_vexp (n : Nat) (h1 : 1 ≤ n) (h2 : n ≤ 20) : ((vexp 0 n : ℕ) : Int) = 0 ∧ val (fun k => (vexp k n : Int)) = (n : ZMod N) := by
  have : ∀ n ∈ List.range' 1 20, vexp 0 n = 0 ∧ ∏ k ∈ Finset.range 20, k ^ vexp k n = n := by decide +kernel
  obtain ⟨z, p⟩ := this n (List.mem_range'_1.mpr (by omega))
  refine ⟨by rw [z]; rfl, ?_⟩
  simp only [val]
  exact_mod_cast congrArg (Nat.cast (R := ZMod N)) p

/-- |j − i| as the Go code computes it -/
def dist (i j : Nat) : Nat := if j < i then i - j else j - i
def sgn (i j : Nat) : Int := if j < i then -1 else 1

/-- the first loop in closed form: the exponent of k is what the ids other than i contribute less what their distances from i
    do, and the sign is the product of the signs of `j − i` -/
theorem countsOf_eq (i : Nat) (s : List Nat) : countsOf i s =
    (fun k => ((((s.filter (· ≠ i)).map fun j => vexp k j).sum : ℕ) : Int) - (((s.filter (· ≠ i)).map fun j => vexp k (dist i j)).sum : ℕ),
      ((s.filter (· ≠ i)).map (sgn i)).prod) := by
  unfold countsOf
  generalize s.filter (· ≠ i) = js
  induction js using List.reverseRecOn with
  | nil => simp
  | append_singleton js j ih =>
    -- the two inner loops of the body are `updF 1` and `updF (-1)`
    have add := updF_apply 1 (factorsOf j)
    have sub := updF_apply (-1) (factorsOf (dist i j))
    simp only [updF, dist, one_mul, neg_one_mul, ← sub_eq_add_neg] at add sub
    rw [List.foldl_concat, ih]
    refine Prod.ext (funext fun k => ?_) ?_
    · dsimp only
      rw [sub, add]
      simp only [vexp, dist, List.map_append, List.sum_append, List.map_cons, List.map_nil, List.sum_cons, List.sum_nil]
      push_cast; ring
    · simp only [sgn, List.map_append, List.prod_append, List.map_cons, List.map_nil, List.prod_cons, List.prod_nil]
      split <;> ring

theorem sgn_prod_unit (i : Nat) (js : List Nat) : (js.map (sgn i)).prod = 1 ∨ (js.map (sgn i)).prod = -1 := by
  induction js with
  | nil => left; rfl
  | cons j rest ih =>
    simp only [List.map_cons, List.prod_cons]
    have hj : sgn i j = 1 ∨ sgn i j = -1 := by unfold sgn; split <;> simp
    rcases hj with e | e <;> rcases ih with h | h <;> rw [e, h] <;> simp

/-- the body of the second loop, copied from `step` inside `pre` (Model/Lagrange.lean); `pre_eq` below is the tie -/
def loopStep (counts : Nat → Int) (acc : Option (Int × Int)) (k : Nat) : Option (Int × Int) :=
  match acc with
  | none => none
  | some (num, den) =>
    let v := counts k
    if v > 0 then (powerOf k v.toNat).map fun pw => (i64.mul num pw, den)
    else if v < 0 then (powerOf k (-v).toNat).map fun pw => (num, i64.mul den pw)
    else some (num, den)

theorem pre_eq (i : Nat) (s : List Nat) :
    pre i s = match (List.range 20).foldl (loopStep (countsOf i s).1) (some (1, 1)) with
      | none => none
      | some (num, den) => some ((i64.mul num (countsOf i s).2 * (invN den : Int)) % (N : Int)).toNat := by
  unfold pre
  generalize countsOf i s = cs
  rfl

/-- the largest exponent the power table of k can serve (0 without a table) -/
def tblMax (k : Nat) : Nat := ((Frost.PRECOMPUTED_POWERS.find? (·.1 == k)).map fun e => e.2.length - 1).getD 0

/-- the product of the largest entries of the power tables of the indices below m -/
def boundUpTo (m : Nat) : Nat := ((List.range m).map fun k => k ^ tblMax k).prod

theorem pow_tblMax_pos (k : Nat) : 1 ≤ k ^ tblMax k := by
  cases k with
  | zero => decide
  | succ k => exact Nat.one_le_pow _ _ k.succ_pos
theorem boundUpTo_succ (m : Nat) : boundUpTo (m + 1) = boundUpTo m * m ^ tblMax m := by
  unfold boundUpTo; rw [List.range_succ, List.map_append]; simp
theorem boundUpTo_le (m : Nat) (hm : m ≤ 20) : boundUpTo m ≤ Nat.factorial 20 := by
  have : ∀ m ∈ List.range 21, boundUpTo m ≤ Nat.factorial 20 := by decide +kernel
  exact this m (List.mem_range.mpr (by omega))

theorem powerOf_eq (k v : Nat) (hk : k < 20) (h1 : 1 ≤ v) (h2 : v ≤ tblMax k) : powerOf k v = some ((k ^ v : ℕ) : Int) ∧ 1 ≤ k := by
  have tbl : ∀ k ∈ List.range 20, tblMax k < 20 ∧ ∀ v ∈ List.range 20, 1 ≤ v → v ≤ tblMax k →
      powerOf k v = some ((k ^ v : ℕ) : Int) ∧ 1 ≤ k := by decide +kernel
  obtain ⟨hv, h⟩ := tbl k (List.mem_range.mpr hk)
  exact h v (List.mem_range.mpr (by omega)) h1 h2

theorem i64_mul_exact {a b : Int} (h : (a * b).natAbs ≤ Nat.factorial 20) : i64.mul a b = a * b :=
  i64.wrap_of_inRange ⟨by have := factorial_20; omega, by have := factorial_20; omega⟩

/-- one step of the loop, for the numerator or the denominator alike: the power is in the table, and multiplying an
    accumulator within the bound of index `m` by it is exact in int64 and stays within the bound of index `m + 1` -/
theorem mul_step (m e : Nat) (hm : m < 20) (he1 : 1 ≤ e) (he2 : e ≤ tblMax m) (x : Int) (h1 : 1 ≤ x) (h2 : x ≤ boundUpTo m) :
    ∃ pw, powerOf m e = some pw ∧ i64.mul x pw = x * pw ∧ 1 ≤ x * pw ∧ x * pw ≤ boundUpTo (m + 1) ∧
      (pw : ZMod N) = (m : ZMod N) ^ e := by
  obtain ⟨hpw, k1⟩ := powerOf_eq m e hm he1 he2
  have hp1 : (1 : Int) ≤ ((m ^ e : ℕ) : Int) := by exact_mod_cast Nat.one_le_pow _ _ (by omega)
  have hb : x * ((m ^ e : ℕ) : Int) ≤ boundUpTo (m + 1) := by
    rw [boundUpTo_succ, Nat.cast_mul]
    exact Int.mul_le_mul h2 (by exact_mod_cast Nat.pow_le_pow_right k1 he2) (by omega) (by omega)
  have h20 : ((boundUpTo (m + 1) : ℕ) : Int) ≤ Nat.factorial 20 := by
    exact_mod_cast boundUpTo_le (m + 1) hm
  have hpos : 1 ≤ x * ((m ^ e : ℕ) : Int) := by
    calc (1 : Int) = 1 * 1 := rfl
      _ ≤ x * _ := Int.mul_le_mul h1 hp1 (by omega) (by omega)
  exact ⟨_, hpw, i64_mul_exact (by omega), hpos, hb, by push_cast; rfl⟩

/-- the loop, total and correct at once: with every exponent within its power table the loop returns, no int64 product wraps
    (every factor is a table entry and the tables' maxima multiply to 20!), and numerator / denominator is the value of the
    exponent vector -/
theorem loop_spec (counts : Nat → Int) (hb : ∀ k, k < 20 → (counts k).natAbs ≤ tblMax k) (m : Nat) (hm : m ≤ 20) :
    ∃ num den, (List.range m).foldl (loopStep counts) (some (1, 1)) = some (num, den) ∧
      1 ≤ num ∧ num ≤ (boundUpTo m : Int) ∧ 1 ≤ den ∧ den ≤ (boundUpTo m : Int) ∧
      (num : ZMod N) * (den : ZMod N)⁻¹ = ∏ k ∈ Finset.range m, ((k : ZMod N)) ^ (counts k) := by
  induction m with
  | zero => exact ⟨1, 1, rfl, by simp [boundUpTo]⟩
  | succ m ih =>
    obtain ⟨n0, d0, hin, a1, a2, a3, a4, a5⟩ := ih (by omega)
    have hbm : (boundUpTo m : Int) ≤ boundUpTo (m + 1) := by
      rw [boundUpTo_succ]; exact_mod_cast Nat.le_mul_of_pos_right _ (pow_tblMax_pos m)
    have hbk := hb m (by omega)
    rw [List.range_succ, List.foldl_append, hin, List.foldl_cons, List.foldl_nil, loopStep, Finset.prod_range_succ, ← a5]
    -- the exponent is |counts m|, on the numerator's or the denominator's side
    split
    · obtain ⟨pw, hpw, hx, b1, b2, hz⟩ := mul_step m (counts m).toNat (by omega) (by omega) (by omega) n0 a1 a2
      rw [hpw, Option.map_some, hx]
      refine ⟨_, _, rfl, b1, b2, a3, by omega, ?_⟩
      rw [← Int.toNat_of_nonneg (show 0 ≤ counts m by omega), zpow_natCast, ← hz]; push_cast; ring
    · split
      · obtain ⟨pw, hpw, hx, b1, b2, hz⟩ := mul_step m (-counts m).toNat (by omega) (by omega) (by omega) d0 a3 a4
        rw [hpw, Option.map_some, hx]
        refine ⟨_, _, rfl, a1, by omega, b1, b2, ?_⟩
        rw [show counts m = -((-counts m).toNat : Int) by omega, zpow_neg, zpow_natCast, ← hz]; push_cast; ring
      · exact ⟨n0, d0, rfl, a1, by omega, a3, by omega, by rw [show counts m = 0 by omega]; simp⟩

end BandVerif.Lagrange
