/- C10: the history invariant `HInv` of the signing state machine and its preservation by EVERY operation, including the
   end-blocker.  For the end-blocker: phase A in closed form (`aggregateAll_core`, `aggregated_hinv`); the expiry pass in
   closed form (`passes`, `incomplete`, `expireGo_core`; `consumed` and the two theorems about the prefix it consumes;
   `hinv_consumed`: a prefix of the FIFO may go with its records);
   what the two phases together make of the state before the block (`Expired`, `expired_hinv`: the files after this one
   need not know the state in between); the retries (`retryAll_hinv`).  Then what the operations do to one signing
   record (`Retried`, `endBlock_signing`, `endBlock_signing_old`, `request_signings_other`).  Core-only. -/
import BandVerif.Lemmas.SigningInv

namespace BandVerif.Signing

structure HInv (s : State) : Prop where
  /-- every scheduled expiry belongs to the CURRENT attempt of an existing signing that is WAITING, or SUCCESS with
      a complete partial-signature set -/
  h1 : ∀ sid att, (sid, att) ∈ s.expirations → ∃ sg atm, s.signings sid = some sg ∧ att = sg.attempt ∧
        s.attempts sid att = some atm ∧
        (sg.status = stWaiting ∨ (sg.status = stSuccess ∧ (s.partials sid att).length = atm.assigned.length))
  /-- at most one scheduled expiry per signing -/
  h2 : (s.expirations.map (·.1)).Nodup
  /-- pending ids are WAITING with a complete set -/
  h3 : ∀ sid ∈ s.pending, ∃ sg atm, s.signings sid = some sg ∧ sg.status = stWaiting ∧
        s.attempts sid sg.attempt = some atm ∧ (s.partials sid sg.attempt).length = atm.assigned.length
  /-- ids above the counter are unused -/
  h4 : ∀ sid, s.count < sid → s.signings sid = none
  /-- no partial signatures without a stored attempt -/
  h5 : ∀ sid att, s.attempts sid att = none → s.partials sid att = []
  /-- a WAITING signing with a complete non-empty set is pending -/
  h6 : ∀ sid sg atm, s.signings sid = some sg → sg.status = stWaiting → s.attempts sid sg.attempt = some atm →
        atm.assigned ≠ [] → (s.partials sid sg.attempt).length = atm.assigned.length → sid ∈ s.pending
  /-- a stored attempt is scheduled for expiry -/
  h7 : ∀ sid att atm, s.attempts sid att = some atm → (sid, att) ∈ s.expirations
  /-- stored partial signatures come from distinct assigned members; committees have distinct members -/
  p1 : ∀ sid att atm, s.attempts sid att = some atm → (∀ m ∈ s.partials sid att, m ∈ ids atm) ∧
        (s.partials sid att).Nodup ∧ (ids atm).Nodup

theorem HInv.core {s : State} (h : HInv s) : Core s := ⟨h.h1, h.h2, h.h3, h.h6, h.p1⟩

theorem hinv_of_frame (s s' : State) (h : HInv s) (a : s'.signings = s.signings) (b : s'.attempts = s.attempts)
    (c : s'.partials = s.partials) (d : s'.expirations = s.expirations) (e : s'.pending = s.pending)
    (f : s'.count = s.count) : HInv s' := by
  refine ⟨?_, ?_, ?_, ?_, ?_, ?_, ?_, ?_⟩
  · rw [a, b, c, d]; exact h.h1
  · rw [d]; exact h.h2
  · rw [a, b, c, e]; exact h.h3
  · rw [a, f]; exact h.h4
  · rw [b, c]; exact h.h5
  · rw [a, b, c, e]; exact h.h6
  · rw [b, d]; exact h.h7
  · rw [b, c]; exact h.p1

/-- what `HInv` reads -/
def hview (s : State) := (s.signings, s.attempts, s.partials, s.expirations, s.pending, s.count)

theorem hinv_of_view {s s' : State} (h : HInv s) (e : hview s' = hview s) : HInv s' :=
  hinv_of_frame s s' h (congrArg (·.1) e) (congrArg (·.2.1) e) (congrArg (·.2.2.1) e) (congrArg (·.2.2.2.1) e)
    (congrArg (·.2.2.2.2.1) e) (congrArg (·.2.2.2.2.2) e)

theorem HInv.le_count {s : State} (h : HInv s) {sid : Nat} {sg : Sig} (hs : s.signings sid = some sg) : sid ≤ s.count :=
  Nat.le_of_not_gt fun hlt => by rw [h.h4 sid hlt] at hs; cases hs

/-- a stored attempt has its entry in the FIFO: it does not belong to a signing that has none there -/
theorem HInv.stored_ne {s : State} (h : HInv s) {sid : Nat} (hn : sid ∉ s.expirations.map (·.1)) {i a : Nat} {atm : Attempt}
    (q : s.attempts i a = some atm) : i ≠ sid :=
  fun e => hn (e ▸ List.mem_map_of_mem (f := (·.1)) (h.h7 i a atm q))

theorem HInv.next_unscheduled {s : State} (h : HInv s) : s.count + 1 ∉ s.expirations.map (·.1) := fun hm => by
  obtain ⟨⟨i, a⟩, hia, (e : i = _)⟩ := List.mem_map.mp hm
  obtain ⟨sg, _, q, _⟩ := h.h1 i a hia
  have := h.le_count q; omega

theorem initiated_hinv {s : State} (h : HInv s) {sid : Nat} (att : Nat) {c : List Nat} (height : Int) (hle : sid ≤ s.count)
    (hc : c.Nodup) (hne : sid ∉ s.expirations.map (·.1)) : HInv (initiated s sid att c height) := by
  -- every stored attempt, so every scheduled entry and every pending id, belongs to another signing
  have stored : ∀ {i a atm}, s.attempts i a = some atm → i ≠ sid := h.stored_ne hne
  have none' : ∀ {i a atm}, s.attempts i a = some atm → ¬(i = sid ∧ a = att) := fun q e => stored q e.1
  -- the new attempt has no partial signatures yet
  have nil : s.partials sid att = [] := h.h5 _ _ (Option.eq_none_iff_forall_ne_some.mpr fun _ q => stored q rfl)
  unfold initiated
  refine ⟨?_, ?_, ?_, ?_, ?_, ?_, ?_, ?_⟩
  · intro i a hia
    rcases List.mem_append.mp hia with hold | hnew
    · obtain ⟨sg', atm', q1, q2, q3, q4⟩ := h.h1 i a hold
      exact ⟨sg', atm', (if_neg (stored q3)).trans q1, q2, (if_neg (none' q3)).trans q3, q4⟩
    · cases List.mem_singleton.mp hnew
      exact ⟨_, _, if_pos rfl, rfl, if_pos ⟨rfl, rfl⟩, .inl rfl⟩
  · show (s.expirations ++ [(sid, att)]).map (·.1) |>.Nodup
    rw [List.map_append]
    exact nodup_concat h.h2 hne
  · intro i hi
    obtain ⟨sg', atm', q1, q2, q3, q4⟩ := h.h3 i hi
    exact ⟨sg', atm', (if_neg (stored q3)).trans q1, q2, (if_neg (none' q3)).trans q3, q4⟩
  · intro i (hi : s.count < i)
    exact (if_neg (by omega)).trans (h.h4 i hi)
  · intro i a hia
    dsimp only at hia
    split at hia
    · cases hia
    · exact h.h5 i a hia
  · intro i sg' atm' q1 q2 q3 q4 q5
    dsimp only at q1 q3
    split at q1
    · rename_i e; subst e
      cases q1
      rw [nil] at q5
      exact absurd (List.eq_nil_of_length_eq_zero q5.symm) q4
    · rename_i e
      rw [if_neg fun e' => e e'.1] at q3
      exact h.h6 i sg' atm' q1 q2 q3 q4 q5
  · intro i a atm' q
    dsimp only at q
    split at q
    · rename_i e; rw [e.1, e.2]; exact List.mem_append_right _ (List.mem_singleton_self _)
    · exact List.mem_append_left _ (h.h7 i a atm' q)
  · intro i a atm' q
    dsimp only at q
    split at q
    · rename_i e; cases q
      rw [e.1, e.2, nil]
      exact ⟨nofun, .nil, (dequeueAll_ids_sublist c s.queues).nodup hc⟩
    · exact h.p1 i a atm' q

/-- the record of a signing that has no scheduled expiry, hence no stored attempt (and so is not pending), may be rewritten -/
theorem hinv_signing {s : State} (h : HInv s) {sid : Nat} {sg' : Sig} {cnt : Nat} (hcnt : s.count ≤ cnt) (hle : sid ≤ cnt)
    (hne : sid ∉ s.expirations.map (·.1)) :
    HInv { s with count := cnt, signings := fun i => if i = sid then some sg' else s.signings i } := by
  have stored : ∀ {i a atm}, s.attempts i a = some atm → i ≠ sid := h.stored_ne hne
  refine ⟨?_, h.h2, ?_, ?_, h.h5, ?_, h.h7, h.p1⟩
  · intro i a hia
    obtain ⟨sg, atm, q1, q2, q3, q4⟩ := h.h1 i a hia
    exact ⟨sg, atm, (if_neg (stored q3)).trans q1, q2, q3, q4⟩
  · intro i hi
    obtain ⟨sg, atm, q1, q2, q3, q4⟩ := h.h3 i hi
    exact ⟨sg, atm, (if_neg (stored q3)).trans q1, q2, q3, q4⟩
  · intro i (hi : cnt < i)
    exact (if_neg (by omega)).trans (h.h4 i (by omega))
  · intro i sg atm q1 q2 q3 q4 q5
    exact h.h6 i sg atm ((if_neg (stored q3)).symm.trans q1) q2 q3 q4 q5

theorem retryOne_hinv (s : State) (sid : Nat) (c : List Nat) (height : Int) (h : HInv s)
    (hc : c.Nodup) (hne : sid ∉ s.expirations.map (·.1)) : HInv (retryOne s sid c height) := by
  rcases retryOne_cases s sid c height with ⟨sg, hs, -, -, -, e⟩ | ⟨sg, hs, -, e⟩ | ⟨-, e⟩
  · rw [e]; exact initiated_hinv h _ height (h.le_count hs) hc hne
  · rw [e]; exact hinv_of_view (hinv_signing h (Nat.le_refl _) (h.le_count hs) hne) rfl
  · rw [e]; exact h

theorem retryOne_other (s : State) (sid : Nat) (c : List Nat) (height : Int) {t : Nat} (ht : t ≠ sid) :
    (t ∉ s.expirations.map (·.1) → t ∉ (retryOne s sid c height).expirations.map (·.1)) ∧
    (retryOne s sid c height).signings t = s.signings t := by
  rcases retryOne_cases s sid c height with ⟨sg, -, -, -, -, e⟩ | ⟨sg, -, -, e⟩ | ⟨-, e⟩ <;> rw [e]
  · refine ⟨fun hn => ?_, if_neg ht⟩
    rw [initiated, List.map_append, List.mem_append, not_or]
    exact ⟨hn, fun hm => ht (List.mem_singleton.mp hm)⟩
  · exact ⟨id, if_neg ht⟩
  · exact ⟨id, rfl⟩

theorem retryAll_hinv (committee : Nat → List Nat) (height : Int) (hc : ∀ i, (committee i).Nodup) (l : List Nat) (s : State) (h : HInv s)
    (hl : l.Nodup) (hne : ∀ t ∈ l, t ∉ s.expirations.map (·.1)) : HInv (retryAll committee height l s) := by
  induction l generalizing s with
  | nil => exact h
  | cons sid rest ih =>
    have hn := List.nodup_cons.mp hl
    exact ih _ (retryOne_hinv s sid _ height h (hc sid) (hne sid (List.mem_cons_self ..))) hn.2
      fun t ht => (retryOne_other s sid _ height fun e => hn.1 (e ▸ ht)).1 (hne t (List.mem_cons_of_mem _ ht))

theorem retryAll_signing_other (committee : Nat → List Nat) (height : Int) (l : List Nat) (s : State) (i : Nat) (hi : i ∉ l) :
    (retryAll committee height l s).signings i = s.signings i := by
  induction l generalizing s with
  | nil => rfl
  | cons x xs ih =>
    rw [retryAll, ih _ fun h => hi (List.mem_cons_of_mem _ h)]
    exact (retryOne_other s x _ height fun e => hi (e ▸ List.mem_cons_self ..)).2

theorem submit_hinv (s : State) (sid member : Nat) (signerOk valid : Bool) (h : HInv s) :
    HInv (submit s sid member signerOk valid).1 := by
  rcases submit_cases s sid member signerOk valid with ⟨e, -, he⟩ | ⟨sg, atm, hs, hw, ha, hmem, hnot, -, -, he⟩
  · rw [he]; exact h
  · have c := addPartial_core h.core hs hw ha hmem hnot
    rw [he]
    refine ⟨c.sched, c.once, c.pend, ?_, ?_, c.full, ?_, c.parts⟩ <;> rw [addPartial_eq]
    · exact h.h4
    · intro i a hia
      show (if i = sid ∧ a = sg.attempt then _ else _) = _
      rw [if_neg fun e => by rw [e.1, e.2, ha] at hia; cases hia]; exact h.h5 i a hia
    · exact h.h7

theorem aggOne_signings (s : State) (sid : Nat) (sg : Sig) :
    (aggOne s sid sg).signings = fun i => if i = sid then some { sg with status := stSuccess } else s.signings i :=
  onCompleted_frame (·.signings) (fun _ _ => rfl) ..

/-- phase A in closed form: the pending signings become SUCCESS, no other record changes -/
theorem aggregateAll_core (l : List Nat) (s : State) (i : Nat) :
    (aggregateAll s l).signings i = (s.signings i).map fun sg => if i ∈ l then { sg with status := stSuccess } else sg := by
  fun_induction aggregateAll s l with
  | case1 => simp
  | case2 s t ts hs ih =>
    rw [ih]
    by_cases e : i = t
    · rw [e, hs]; rfl
    · simp only [List.mem_cons, e, false_or]
  | case3 s t ts sg hs assigned s1 ih =>
    rw [ih, show (onCompleted s1 t assigned).signings = _ from aggOne_signings s t sg]
    by_cases e : i = t
    · subst e
      simp only [if_true, hs, List.mem_cons, true_or]
      split <;> rfl
    · simp only [e, if_false, List.mem_cons, false_or]

/-- a record that is WAITING after phase A is the record of `s`, of a signing that was not pending -/
theorem aggd_waiting {s : State} {i : Nat} {sg : Sig} (q : (aggd s).signings i = some sg) (hw : sg.status = stWaiting) :
    s.signings i = some sg ∧ i ∉ s.pending := by
  rw [show (aggd s).signings i = _ from aggregateAll_core s.pending s i] at q
  obtain ⟨sg0, hs, rfl⟩ := Option.map_eq_some_iff.mp q
  by_cases hp : i ∈ s.pending
  · rw [if_pos hp] at hw; cases hw
  · rw [if_neg hp]; exact ⟨hs, hp⟩

theorem aggregated_hinv (s : State) (h : HInv s) : HInv (aggd s) := by
  obtain ⟨att, par, exp⟩ := aggd_keeps s
  have cnt : (aggd s).count = s.count := aggregateAll_frame (·.count) (fun _ _ => rfl) ..
  have sig : ∀ i, (aggd s).signings i = _ := aggregateAll_core s.pending s
  -- `h2`, `h5`, `h7`, `p1` read only the fields phase A keeps
  refine ⟨?_, exp ▸ h.h2, nofun, ?_, att ▸ par ▸ h.h5, ?_, att ▸ exp ▸ h.h7, att ▸ par ▸ h.p1⟩
  · intro i a hia
    rw [exp] at hia; rw [att, par, sig]
    obtain ⟨sg, atm, q1, q2, q3, q4⟩ := h.h1 i a hia
    by_cases hp : i ∈ s.pending
    · obtain ⟨sg', atm', r1, r2, r3, r4⟩ := h.h3 i hp
      cases Option.some.inj (q1.symm.trans r1); subst q2; cases Option.some.inj (q3.symm.trans r3)
      exact ⟨{ sg with status := stSuccess }, atm, by rw [q1]; simp [hp], rfl, q3, .inr ⟨rfl, r4⟩⟩
    · exact ⟨sg, atm, by rw [q1]; simp [hp], q2, q3, q4⟩
  · intro i hi
    rw [sig, h.h4 i (cnt ▸ hi)]; rfl
  · intro i sg atm q1 q2 q3 q4 q5
    rw [att] at q3; rw [par] at q5
    obtain ⟨hs, hp⟩ := aggd_waiting q1 q2
    exact absurd (h.h6 i sg atm hs q2 q3 q4 q5) hp

/-- the expiry pass gets past entry `x`: its records exist and its attempt has expired -/
def passes (s : State) (height : Int) (x : Nat × Nat) : Bool :=
  (s.signings x.1).isSome && (s.attempts x.1 x.2).any fun atm => decide (atm.expiredHeight ≤ height)

/-- a consumed entry is reported as timed out: its partial-signature set is incomplete -/
def incomplete (s : State) (x : Nat × Nat) : Bool :=
  (s.attempts x.1 x.2).any fun atm => (s.partials x.1 x.2).length != atm.assigned.length

theorem passes_iff {s : State} {height : Int} {x : Nat × Nat} :
    passes s height x = true ↔ ∃ sg atm, s.signings x.1 = some sg ∧ s.attempts x.1 x.2 = some atm ∧ atm.expiredHeight ≤ height := by
  unfold passes
  cases s.signings x.1 <;> cases s.attempts x.1 x.2 <;> simp

theorem passes_of {s : State} {sid att : Nat} {sg : Sig} {atm : Attempt} (hs : s.signings sid = some sg) (ha : s.attempts sid att = some atm)
    (height : Int) : passes s height (sid, att) = decide (atm.expiredHeight ≤ height) := by
  unfold passes; rw [hs, ha]; rfl

theorem incomplete_of {s : State} {sid att : Nat} {atm : Attempt} (ha : s.attempts sid att = some atm) :
    incomplete s (sid, att) = true ↔ (s.partials sid att).length ≠ atm.assigned.length := by
  unfold incomplete; rw [ha]; exact bne_iff_ne

theorem expireGo_stop {s : State} {height : Int} {x : Nat × Nat} (h : passes s height x = false) (nowNs : Int) (rest : List (Nat × Nat))
    (acc : List Nat) (n : Nat) : expireGo height nowNs (x :: rest) s acc n = (s, acc, n) := by
  obtain ⟨sid, att⟩ := x
  rw [expireGo]
  cases hs : s.signings sid with
  | none => rfl
  | some sg =>
    cases ha : s.attempts sid att with
    | none => rfl
    | some atm => exact if_pos (by simpa [passes_of hs ha] using h)

theorem expireGo_consume {s : State} {height : Int} {x : Nat × Nat} (h : passes s height x = true) (nowNs : Int) (rest : List (Nat × Nat))
    (acc : List Nat) (n : Nat) : ∃ sg atm, s.signings x.1 = some sg ∧ s.attempts x.1 x.2 = some atm ∧ atm.expiredHeight ≤ height ∧
      expireGo height nowNs (x :: rest) s acc n =
        expireGo height nowNs rest (consumeHead s x.1 x.2 sg atm nowNs) (if incomplete s x then acc ++ [x.1] else acc) (n + 1) := by
  obtain ⟨sg, atm, hs, ha, hle⟩ := passes_iff.mp h
  refine ⟨sg, atm, hs, ha, hle, ?_⟩
  rw [expireGo, hs]
  simp only [incomplete, ha, Option.any_some, bne_iff_ne, consumeHead]
  exact if_neg (by omega)

theorem consumeHead_other (s : State) (x : Nat × Nat) (sg : Sig) (atm : Attempt) (nowNs height : Int) {y : Nat × Nat} (hy : y ≠ x) :
    passes (consumeHead s x.1 x.2 sg atm nowNs) height y = passes s height y ∧
    incomplete (consumeHead s x.1 x.2 sg atm nowNs) y = incomplete s y := by
  obtain ⟨f1, f2, f3⟩ := consumeHead_keep s x.1 x.2 sg atm nowNs
  have : ¬(y.1 = x.1 ∧ y.2 = x.2) := fun e => hy (Prod.ext e.1 e.2)
  unfold passes incomplete
  rw [f1, f2, f3, if_neg this, if_neg this]
  exact ⟨rfl, rfl⟩

/-- the expiry pass in closed form: over a duplicate-free FIFO it consumes exactly `takeWhile (passes s height)`, clears the
    attempt records and partial signatures of those entries and of no other, and reports those of them whose set was
    incomplete.  The verdicts are all taken in the state BEFORE the pass: consuming one entry changes no record of another
    (`consumeHead_other`), which is why no hypothesis about the records is needed. -/
theorem expireGo_core (height nowNs : Int) (l : List (Nat × Nat)) (s : State) (acc : List Nat) (n : Nat) (hnd : l.Nodup) :
    (expireGo height nowNs l s acc n).2.2 = n + (l.takeWhile (passes s height)).length ∧
    (expireGo height nowNs l s acc n).2.1 = acc ++ ((l.takeWhile (passes s height)).filter (incomplete s)).map (·.1) ∧
    (∀ x ∈ l.takeWhile (passes s height),
      (expireGo height nowNs l s acc n).1.attempts x.1 x.2 = none ∧ (expireGo height nowNs l s acc n).1.partials x.1 x.2 = []) ∧
    (∀ x ∉ l.takeWhile (passes s height), (expireGo height nowNs l s acc n).1.attempts x.1 x.2 = s.attempts x.1 x.2 ∧
      (expireGo height nowNs l s acc n).1.partials x.1 x.2 = s.partials x.1 x.2) := by
  induction l generalizing s acc n with
  | nil => exact ⟨rfl, (List.append_nil _).symm, nofun, fun _ _ => ⟨rfl, rfl⟩⟩
  | cons x rest ih =>
    cases h : passes s height x with
    | false =>
      rw [expireGo_stop h, List.takeWhile_cons_of_neg (by rw [h]; exact Bool.false_ne_true)]
      exact ⟨rfl, (List.append_nil _).symm, nofun, fun _ _ => ⟨rfl, rfl⟩⟩
    | true =>
      obtain ⟨sg, atm, -, -, -, e⟩ := expireGo_consume h nowNs rest acc n
      have hx := List.nodup_cons.mp hnd
      have other : ∀ y ∈ rest, y ≠ x := fun y hy e => hx.1 (e ▸ hy)
      obtain ⟨-, f2, f3⟩ := consumeHead_keep s x.1 x.2 sg atm nowNs
      obtain ⟨i1, i2, i3, i4⟩ := ih (consumeHead s x.1 x.2 sg atm nowNs) (if incomplete s x then acc ++ [x.1] else acc) (n + 1) hx.2
      rw [takeWhile_congr_mem fun y hy => (consumeHead_other s x sg atm nowNs height (other y hy)).1] at i1 i2 i3 i4
      rw [List.filter_congr fun y hy => (consumeHead_other s x sg atm nowNs height (other y ((List.takeWhile_sublist _).subset hy))).2] at i2
      have hxn : x ∉ rest.takeWhile (passes s height) := fun hm => hx.1 ((List.takeWhile_sublist _).subset hm)
      rw [e, List.takeWhile_cons_of_pos h]
      refine ⟨by rw [i1, List.length_cons]; omega, ?_, fun y hy => ?_, fun y hy => ?_⟩
      · rw [i2, List.filter_cons]
        split <;> simp
      · rcases List.mem_cons.mp hy with rfl | hy
        · rw [(i4 y hxn).1, (i4 y hxn).2, f2, f3, if_pos ⟨rfl, rfl⟩, if_pos ⟨rfl, rfl⟩]; exact ⟨rfl, rfl⟩
        · exact i3 y hy
      · have hy' : y ≠ x ∧ y ∉ rest.takeWhile (passes s height) := ⟨fun e => hy (e ▸ List.mem_cons_self ..), fun hm => hy (List.mem_cons_of_mem _ hm)⟩
        rw [(i4 y hy'.2).1, (i4 y hy'.2).2, f2, f3, if_neg fun e' => hy'.1 (Prod.ext e'.1 e'.2), if_neg fun e' => hy'.1 (Prod.ext e'.1 e'.2)]
        exact ⟨rfl, rfl⟩

def consumed (height nowNs : Int) (l : List (Nat × Nat)) (s : State) : Nat := (expireGo height nowNs l s [] 0).2.2

theorem consumed_eq (height nowNs : Int) {l : List (Nat × Nat)} (s : State) (hnd : l.Nodup) :
    consumed height nowNs l s = (l.takeWhile (passes s height)).length := by
  rw [consumed, (expireGo_core height nowNs l s [] 0 hnd).1, Nat.zero_add]

theorem HInv.expirations_nodup {s : State} (h : HInv s) : s.expirations.Nodup :=
  List.Pairwise.of_map (·.1) (fun _ _ hab e => hab (e ▸ rfl)) h.h2

/-- PROPERTY (an attempt is timed out exactly when its period has passed, FIFO): under the invariant, the pass consumes a prefix
    of the FIFO in which EVERY entry has expired (`expiredHeight ≤ height`), and stops either at the end or at the first entry
    that has NOT expired; so with a FIFO ordered by expiry height (constant SigningPeriod, non-decreasing block heights)
    every expired attempt is processed in this very block and no unexpired one is.
    (`s2` is any state satisfying the invariant; the end-blocker runs the pass on `aggd s`.) -/
theorem expire_consumes_exactly_expired_prefix (s2 : State) (H2 : HInv s2) (height nowNs : Int) :
    consumed height nowNs s2.expirations s2 ≤ s2.expirations.length ∧
    (∀ i a, (i, a) ∈ s2.expirations.take (consumed height nowNs s2.expirations s2) → ∃ atm, s2.attempts i a = some atm ∧ atm.expiredHeight ≤ height) ∧
    (∀ i a, s2.expirations[consumed height nowNs s2.expirations s2]? = some (i, a) → ∃ atm, s2.attempts i a = some atm ∧ atm.expiredHeight > height) := by
  rw [consumed_eq height nowNs s2 H2.expirations_nodup, take_length_takeWhile]
  refine ⟨(List.takeWhile_sublist _).length_le, fun i a hia => ?_, fun i a hia => ?_⟩
  · obtain ⟨-, atm, -, ha, hle⟩ := passes_iff.mp (List.all_eq_true.mp List.all_takeWhile _ hia)
    exact ⟨atm, ha, hle⟩
  · obtain ⟨sg, atm, q1, -, q3, -⟩ := H2.h1 i a (List.mem_of_getElem? hia)
    exact ⟨atm, q3, by simpa [passes_of q1 q3] using not_of_getElem?_length_takeWhile hia⟩

/-- when the FIFO is ordered by expiry height, every expired entry is in the prefix the expiry pass consumes (`s2` as above) -/
theorem all_expired_consumed (s2 : State) (H2 : HInv s2) (height nowNs : Int)
    (hsorted : s2.expirations.Pairwise (fun x y => ∀ ax ay, s2.attempts x.1 x.2 = some ax → s2.attempts y.1 y.2 = some ay → ax.expiredHeight ≤ ay.expiredHeight))
    (i a : Nat) (atm : Attempt) (hm : (i, a) ∈ s2.expirations) (ha : s2.attempts i a = some atm) (hexp : atm.expiredHeight ≤ height) :
    (i, a) ∈ s2.expirations.take (consumed height nowNs s2.expirations s2) := by
  have pass : ∀ {x atm}, x ∈ s2.expirations → s2.attempts x.1 x.2 = some atm → atm.expiredHeight ≤ height → passes s2 height x = true := by
    intro x atm hx hat hle
    obtain ⟨sg, _, q1, _⟩ := H2.h1 x.1 x.2 hx
    exact passes_iff.mpr ⟨sg, atm, q1, hat, hle⟩
  rw [consumed_eq height nowNs s2 H2.expirations_nodup, take_length_takeWhile]
  refine mem_takeWhile_of_pairwise hsorted (fun y hy x hx hr hpx => ?_) hm (pass hm ha hexp)
  obtain ⟨sg, atmy, -, -, q3, -⟩ := H2.h1 y.1 y.2 hy
  obtain ⟨-, atmx, -, hax, hle⟩ := passes_iff.mp hpx
  exact pass hy q3 (Int.le_trans (hr atmy atmx q3 hax) hle)

/-- when nothing is pending, the first `n` entries of the FIFO may go together with their attempt records and partial
    signatures (`s3` differs from `s2` in nothing else that the invariant reads) -/
theorem hinv_consumed {s2 s3 : State} (H2 : HInv s2) (hp2 : s2.pending = []) (n : Nat) (sig : s3.signings = s2.signings)
    (cnt : s3.count = s2.count) (pen : s3.pending = []) (exp : s3.expirations = s2.expirations.drop n)
    (clr : ∀ x ∈ s2.expirations.take n, s3.attempts x.1 x.2 = none ∧ s3.partials x.1 x.2 = [])
    (kept : ∀ x ∉ s2.expirations.take n, s3.attempts x.1 x.2 = s2.attempts x.1 x.2 ∧ s3.partials x.1 x.2 = s2.partials x.1 x.2) :
    HInv s3 := by
  -- an entry that stays scheduled, and every stored attempt that survives, is outside the consumed prefix
  have rest := mem_drop_not_take s2.expirations n H2.expirations_nodup
  have alive : ∀ {i a atm}, s3.attempts i a = some atm → (i, a) ∉ s2.expirations.take n := fun q hx => by
    rw [(clr _ hx).1] at q; cases q
  refine ⟨?_, ?_, ?_, ?_, ?_, ?_, ?_, ?_⟩
  · intro i a hia
    rw [exp] at hia
    obtain ⟨sg, atm, q1, q2, q3, q4⟩ := H2.h1 i a (List.mem_of_mem_drop hia)
    obtain ⟨k1, k2⟩ := kept (i, a) (rest _ hia)
    exact ⟨sg, atm, sig ▸ q1, q2, k1.trans q3, by rw [show s3.partials i a = _ from k2]; exact q4⟩
  · rw [exp]; exact ((List.drop_sublist _ _).map _).nodup H2.h2
  · rw [pen]; exact nofun
  · rw [sig, cnt]; exact H2.h4
  · intro i a hia
    by_cases hx : (i, a) ∈ s2.expirations.take n
    · exact (clr _ hx).2
    · rw [(kept _ hx).1] at hia; rw [(kept _ hx).2]; exact H2.h5 i a hia
  · intro i sg atm q1 q2 q3 q4 q5
    obtain ⟨k1, k2⟩ := kept _ (alive q3)
    rw [k1] at q3; rw [k2] at q5; rw [sig] at q1
    have := H2.h6 i sg atm q1 q2 q3 q4 q5
    rw [hp2] at this; cases this
  · intro i a atm q
    rw [exp]
    have := H2.h7 i a atm ((kept _ (alive q)).1 ▸ q)
    rw [← List.take_append_drop n s2.expirations] at this
    exact (List.mem_append.mp this).resolve_left (alive q)
  · intro i a atm q
    rw [(kept _ (alive q)).2]
    exact H2.p1 i a atm ((kept _ (alive q)).1 ▸ q)

theorem passes_aggd (s : State) (height : Int) : passes (aggd s) height = passes s height ∧ incomplete (aggd s) = incomplete s := by
  obtain ⟨att, par, -⟩ := aggd_keeps s
  refine ⟨funext fun x => ?_, funext fun x => ?_⟩
  · unfold passes; rw [att, show (aggd s).signings x.1 = _ from aggregateAll_core s.pending s x.1, Option.isSome_map]
  · unfold incomplete; rw [att, par]

/-- what the first two phases of an end-block at `height` make of `s`: the pending signings SUCCESS, the first `n` entries of
    the FIFO consumed — the prefix that `passes` —, their attempt records cleared, the signings `late` reported as timed out;
    `s3` is the state the retries start from -/
structure Expired (s s3 : State) (height : Int) (n : Nat) (late : List Nat) : Prop where
  hinv : HInv s3
  sig : ∀ i, s3.signings i = (s.signings i).map fun sg => if i ∈ s.pending then { sg with status := stSuccess } else sg
  exp : s3.expirations = s.expirations.drop n
  taken : s.expirations.take n = s.expirations.takeWhile (passes s height)
  cleared : ∀ x ∈ s.expirations.take n, s3.attempts x.1 x.2 = none
  kept : ∀ x ∉ s.expirations.take n, s3.attempts x.1 x.2 = s.attempts x.1 x.2
  timedOut_nodup : late.Nodup
  /-- every consumed entry with an incomplete set is reported … -/
  timedOut_all : ∀ x ∈ s.expirations.take n, incomplete s x = true → x.1 ∈ late
  /-- … a reported signing has no entry left in the FIFO … -/
  timedOut_unsched : ∀ t ∈ late, t ∉ s3.expirations.map (·.1)
  /-- … and was WAITING, not pending -/
  timedOut_waiting : ∀ t ∈ late, t ∉ s.pending ∧ ∃ sg, s.signings t = some sg ∧ sg.status = stWaiting

theorem Expired.sig_of_not_pending {s s3 : State} {height : Int} {n : Nat} {late : List Nat} (e : Expired s s3 height n late) {i : Nat}
    {sg : Sig} (hs : s.signings i = some sg) (hp : i ∉ s.pending) : s3.signings i = some sg := by
  rw [e.sig i, hs, Option.map_some, if_neg hp]

theorem expired_hinv (s : State) (h : HInv s) (height nowNs : Int) :
    Expired s (expd s height nowNs) height (expiryPass s height nowNs).2.2 (expiryPass s height nowNs).2.1 := by
  -- the pass runs on `s2`, the state after phase A; what it leaves is first said of `s2`, then of `s`
  let s2 := aggd s
  have H2 : HInv s2 := aggregated_hinv s h
  let r := expireGo height nowNs s2.expirations s2 [] 0
  show Expired s { r.1 with expirations := r.1.expirations.drop r.2.2 } height r.2.2 r.2.1
  have hnd := H2.expirations_nodup
  obtain ⟨e1, e2, e3, e4⟩ := expireGo_core height nowNs s2.expirations s2 [] 0 hnd
  have hsig : r.1.signings = s2.signings := expireGo_frame (·.signings) (fun _ _ => rfl) ..
  have hexp : r.1.expirations = s2.expirations := expireGo_frame (·.expirations) (fun _ _ => rfl) ..
  have hpen : r.1.pending = [] := expireGo_frame (·.pending) (fun _ _ => rfl) ..
  have hcnt : r.1.count = s2.count := expireGo_frame (·.count) (fun _ _ => rfl) ..
  have htake : s2.expirations.take r.2.2 = s2.expirations.takeWhile (passes s2 height) := by
    rw [show r.2.2 = _ from e1, Nat.zero_add, take_length_takeWhile]
  rw [← htake] at e2 e3 e4
  rw [List.nil_append] at e2
  have hdrop : ({ r.1 with expirations := r.1.expirations.drop r.2.2 } : State).expirations = s2.expirations.drop r.2.2 :=
    congrArg (List.drop r.2.2) hexp
  have hto : ∀ t ∈ r.2.1, ∃ a, (t, a) ∈ s2.expirations.take r.2.2 ∧ incomplete s2 (t, a) = true := fun t ht => by
    obtain ⟨⟨t, a⟩, hx, rfl⟩ := List.mem_map.mp (show t ∈ _ from e2 ▸ ht)
    exact ⟨a, List.mem_filter.mp hx⟩
  -- phase A changes neither the FIFO (`exp`) nor the attempt records (`att`) nor the verdicts (`pass`, `inc`)
  obtain ⟨att, -, exp⟩ := aggd_keeps s
  obtain ⟨pass, inc⟩ := passes_aggd s height
  exact {
    hinv := hinv_consumed H2 rfl r.2.2 hsig hcnt hpen hdrop e3 e4
    sig := fun i => (congrFun hsig i).trans (aggregateAll_core s.pending s i)
    exp := hdrop.trans (exp ▸ rfl)
    taken := exp ▸ pass ▸ htake
    cleared := exp ▸ fun x hx => (e3 x hx).1
    kept := att ▸ exp ▸ fun x hx => (e4 x hx).1
    timedOut_nodup := by
      rw [show r.2.1 = _ from e2]
      exact (((List.filter_sublist).map _).trans ((List.take_sublist _ _).map _)).nodup H2.h2
    timedOut_all := fun x hx hinc =>
      (show r.2.1 = _ from e2) ▸ List.mem_map_of_mem (f := (·.1)) (List.mem_filter.mpr ⟨exp ▸ hx, inc ▸ hinc⟩)
    timedOut_unsched := fun t ht => by
      obtain ⟨a, hx, -⟩ := hto t ht
      rw [hdrop]
      exact take_drop_disjoint (α := Nat × Nat) (·.1) _ _ H2.h2 t (List.mem_map_of_mem (f := (·.1)) hx)
    timedOut_waiting := fun t ht => by
      obtain ⟨a, hx, hinc⟩ := hto t ht
      obtain ⟨sg2, atm, q1, -, q3, q4⟩ := H2.h1 t a (List.mem_of_mem_take hx)
      have hw : sg2.status = stWaiting := q4.resolve_right fun c => (incomplete_of q3).mp hinc c.2
      obtain ⟨hs, hp⟩ := aggd_waiting q1 hw
      exact ⟨hp, sg2, hs, hw⟩ }

theorem endBlock_hinv (s : State) (committee : Nat → List Nat) (height nowNs : Int) (hc : ∀ i, (committee i).Nodup) (h : HInv s) :
    HInv (endBlock s committee height nowNs) := by
  have e := expired_hinv s h height nowNs
  exact retryAll_hinv committee height hc _ _ e.hinv e.timedOut_nodup e.timedOut_unsched

theorem request_hinv (s : State) (sender : Nat) (auth : Bool) (limit : Coins) (c : List Nat) (height : Int) (hc : c.Nodup) (h : HInv s) :
    HInv (request s sender auth limit c height).1 := by
  rcases request_cases s sender auth limit c height with ⟨e, -, he⟩ | ⟨b, e, -, -, -, -, he⟩ <;> rw [he]
  · exact h
  · have h0 : HInv { s with bal := b, escrow := e } := hinv_of_view h rfl
    -- CreateSigning writes the record of the next id, then the first round is started for it
    have hf : HInv (fresh { s with bal := b, escrow := e }) := hinv_signing h0 (Nat.le_succ _) (Nat.le_refl _) h0.next_unscheduled
    exact hinv_of_view (initiated_hinv hf 1 height (Nat.le_refl _) hc h0.next_unscheduled) rfl

/-- a retry either starts attempt+1 (WAITING) or marks the signing FALLEN at the same attempt -/
def Retried (sg sg' : Sig) : Prop :=
  (sg'.attempt = sg.attempt + 1 ∧ sg'.status = stWaiting) ∨ (sg'.attempt = sg.attempt ∧ sg'.status = stFallen)

theorem retryOne_signing (s : State) (sid : Nat) (c : List Nat) (height : Int) (sg : Sig) (hs : s.signings sid = some sg) :
    ∃ sg', (retryOne s sid c height).signings sid = some sg' ∧ Retried sg sg' := by
  rcases retryOne_cases s sid c height with ⟨sg0, hs0, -, -, -, e⟩ | ⟨sg0, hs0, -, e⟩ | ⟨hn, -⟩
  · cases Option.some.inj (hs.symm.trans hs0)
    rw [e]; exact ⟨_, if_pos rfl, .inl ⟨rfl, rfl⟩⟩
  · cases Option.some.inj (hs.symm.trans hs0)
    rw [e]; exact ⟨_, if_pos rfl, .inr ⟨rfl, rfl⟩⟩
  · rw [hs] at hn; cases hn

theorem retryAll_signing (committee : Nat → List Nat) (height : Int) (l : List Nat) (s : State) (hl : l.Nodup)
    (i : Nat) (sg : Sig) (hs : s.signings i = some sg) (hi : i ∈ l) :
    ∃ sg', (retryAll committee height l s).signings i = some sg' ∧ Retried sg sg' := by
  induction l generalizing s with
  | nil => cases hi
  | cons sid rest ih =>
    have hn := List.nodup_cons.mp hl
    rcases List.mem_cons.mp hi with rfl | hr
    · obtain ⟨sg', q1, q2⟩ := retryOne_signing s i (committee i) height sg hs
      exact ⟨sg', (retryAll_signing_other committee height rest _ i hn.1).trans q1, q2⟩
    · exact ih _ hn.2 ((retryOne_other s sid _ height fun e => hn.1 (e ▸ hr)).2.trans hs) hr

/-- the four things an end-block can do to a signing record: SUCCESS for a pending one; nothing; a retry or FALLEN for one that
    the expiry pass reports as timed out -/
theorem endBlock_signing (s : State) (committee : Nat → List Nat) (height nowNs : Int) (h : HInv s) (i : Nat) (sg : Sig)
    (hs : s.signings i = some sg) :
    ∃ sg', (endBlock s committee height nowNs).signings i = some sg' ∧
      ((i ∈ s.pending ∧ sg.status = stWaiting ∧ sg' = { sg with status := stSuccess }) ∨
       (i ∉ s.pending ∧ i ∉ (expiryPass s height nowNs).2.1 ∧ sg' = sg) ∨
       (i ∉ s.pending ∧ i ∈ (expiryPass s height nowNs).2.1 ∧ sg.status = stWaiting ∧ Retried sg sg')) := by
  have e := expired_hinv s h height nowNs
  rw [endBlock_eq]
  by_cases hto : i ∈ (expiryPass s height nowNs).2.1
  · obtain ⟨hp, sg2, q1, q2⟩ := e.timedOut_waiting i hto
    cases Option.some.inj (hs.symm.trans q1)
    obtain ⟨sg', r1, r2⟩ := retryAll_signing committee height _ _ e.timedOut_nodup i sg (e.sig_of_not_pending hs hp) hto
    exact ⟨sg', r1, .inr (.inr ⟨hp, hto, q2, r2⟩)⟩
  · rw [retryAll_signing_other committee height _ _ i hto, e.sig i, hs]
    by_cases hp : i ∈ s.pending
    · obtain ⟨sg0, _, q1, q2, _, _⟩ := h.h3 i hp
      cases Option.some.inj (hs.symm.trans q1)
      exact ⟨_, rfl, .inl ⟨hp, q2, if_pos hp⟩⟩
    · exact ⟨_, rfl, .inr (.inl ⟨hp, hto, if_neg hp⟩)⟩

theorem endBlock_signing_old (s : State) (committee : Nat → List Nat) (height nowNs : Int) (h : HInv s) {i : Nat} {sg' : Sig}
    (hs' : (endBlock s committee height nowNs).signings i = some sg') : ∃ sg, s.signings i = some sg := by
  have e := expired_hinv s h height nowNs
  cases hs : s.signings i with
  | some sg => exact ⟨sg, rfl⟩
  | none =>
    have hto : i ∉ (expiryPass s height nowNs).2.1 := fun hin => by
      obtain ⟨-, sg, w1, -⟩ := e.timedOut_waiting i hin; rw [hs] at w1; cases w1
    rw [endBlock_eq, retryAll_signing_other committee height _ _ i hto, e.sig i, hs] at hs'
    cases hs'

theorem request_signings_other (s : State) (sender : Nat) (auth : Bool) (limit : Coins) (c : List Nat) (height : Int) (i : Nat)
    (hi : i ≠ s.count + 1) : (request s sender auth limit c height).1.signings i = s.signings i := by
  rcases request_cases s sender auth limit c height with ⟨e, -, he⟩ | ⟨b, e, -, -, -, -, he⟩ <;> rw [he]
  exact (if_neg hi).trans (if_neg hi)

end BandVerif.Signing
