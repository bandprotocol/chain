/- Lemmas for C11: big-endian words, reading words/bytes at offsets. -/
import BandVerif.Model.Encoding

namespace BandVerif.Enc

@[simp] theorem beN_length (k n : Nat) : (beN k n).length = k := by
  induction k generalizing n with
  | zero => rfl
  | succ k ih => simp [beN, ih]

theorem fromBE_append_single (l : Bytes) (b : Nat) : fromBE (l ++ [b]) = fromBE l * 256 + b := by
  simp [fromBE]

theorem fromBE_beN (k n : Nat) : fromBE (beN k n) = n % 256 ^ k := by
  induction k generalizing n with
  | zero => simp [beN, fromBE, Nat.mod_one]
  | succ k ih =>
    simp only [beN, fromBE_append_single, ih]
    rw [Nat.pow_succ, Nat.mul_comm (256 ^ k) 256, Nat.mod_mul, Nat.add_comm, Nat.mul_comm]

theorem beN_inj (k n m : Nat) (hn : n < 256 ^ k) (hm : m < 256 ^ k) (h : beN k n = beN k m) : n = m := by
  have := congrArg fromBE h
  rw [fromBE_beN, fromBE_beN, Nat.mod_eq_of_lt hn, Nat.mod_eq_of_lt hm] at this
  exact this

theorem be64_inj {n m : Nat} (hn : n < 2 ^ 64) (hm : m < 2 ^ 64) (h : be64 n = be64 m) : n = m :=
  beN_inj 8 n m (by simpa using hn) (by simpa using hm) h

@[simp] theorem be64_length (n : Nat) : (be64 n).length = 8 := beN_length 8 n
@[simp] theorem word_length (n : Nat) : (word n).length = 32 := beN_length 32 n
@[simp] theorem wordInt_length (i : Int) : (wordInt i).length = 32 := word_length _

theorem fromBE_word (n : Nat) (h : n < 2 ^ 256) : fromBE (word n) = n := by
  unfold word; rw [fromBE_beN]; exact Nat.mod_eq_of_lt (by simpa using h)

theorem toInt256_wordInt {i : Int} (h : -(2 ^ 255 : Int) ≤ i ∧ i < 2 ^ 255) : toInt256 (fromBE (wordInt i)) = i := by
  unfold wordInt toInt256 two256
  rw [fromBE_word _ (by omega)]
  -- two's complement: `i % 2 ^ 256` is `i`, below `2 ^ 255`, for `0 ≤ i` and `i + 2 ^ 256`, from `2 ^ 255` on, otherwise;
  -- `omega` knows `%` by a literal
  split <;> omega

/-! ### reading at an offset: a reader only looks at the bytes from its offset on (`_skip`) and reads what stands there (`_head`) -/
section
variable {pre : Bytes} {k : Nat} (hk : pre.length = k) {X : Bytes} {off : Nat} (h : k ≤ off)
include hk h

theorem rdWord_skip : rdWord (pre ++ X) off = rdWord X (off - k) := by
  subst hk; obtain ⟨k, rfl⟩ := Nat.exists_eq_add_of_le h
  simp only [rdWord, List.drop_length_add_append, List.length_append, Nat.add_sub_cancel_left, Nat.add_assoc,
    Nat.add_le_add_iff_left]

theorem rdBytes_skip : rdBytes (pre ++ X) off = rdBytes X (off - k) := by
  subst hk; obtain ⟨k, rfl⟩ := Nat.exists_eq_add_of_le h
  simp only [rdBytes, rdWord_skip rfl h, List.drop_length_add_append, List.length_append, Nat.add_sub_cancel_left,
    Nat.add_assoc, Nat.add_le_add_iff_left]

theorem rdPriceElems_skip (n : Nat) : rdPriceElems (pre ++ X) off n = rdPriceElems X (off - k) n := by
  subst hk; obtain ⟨k, rfl⟩ := Nat.exists_eq_add_of_le h
  induction n generalizing k with
  | zero => rfl
  | succ n ih =>
    have := ih (k + 64) (by omega)
    simp only [Nat.add_sub_cancel_left] at this ⊢
    simp only [rdPriceElems, this, List.drop_length_add_append, List.length_append, Nat.add_assoc, Nat.add_le_add_iff_left]

theorem rdPriceArray_skip : rdPriceArray (pre ++ X) off = rdPriceArray X (off - k) := by
  simp only [rdPriceArray, rdWord_skip hk h, rdPriceElems_skip hk (show k ≤ off + 32 by omega),
    show off + 32 - k = off - k + 32 by omega]
end

theorem rdWord_head {w post : Bytes} (hw : w.length = 32) : rdWord (w ++ post) 0 = some (fromBE w) := by
  simp [rdWord, hw, List.take_left' hw]

theorem rdWord_word {n : Nat} {post : Bytes} (hn : n < 2 ^ 256) : rdWord (word n ++ post) 0 = some n := by
  rw [rdWord_head (word_length n), fromBE_word n hn]

theorem encBytes_length (bs : Bytes) : (encBytes bs).length = encBytesLen bs.length := by
  simp [encBytes, encBytesLen]; omega

theorem rdBytes_head {x post : Bytes} (hx : x.length < 2 ^ 256) : rdBytes (encBytes x ++ post) 0 = some x := by
  simp [rdBytes, encBytes, rdWord_word hx, List.drop_left' (word_length _), List.take_left' rfl]

def WFPrice (p : RelayPrice) : Prop := p.sid.length = 32 ∧ p.price < 2 ^ 256

theorem encPriceElems_length (ps : List RelayPrice) (h : ∀ p ∈ ps, WFPrice p) : (encPriceElems ps).length = 64 * ps.length := by
  induction ps with
  | nil => rfl
  | cons p rest ih =>
    have hp := h p (List.mem_cons_self ..)
    simp only [encPriceElems, List.length_append, hp.1, word_length, List.length_cons, ih (fun q hq => h q (List.mem_cons_of_mem _ hq))]
    omega

theorem rdPriceElems_head (ps : List RelayPrice) (post : Bytes) (hw : ∀ p ∈ ps, WFPrice p) :
    rdPriceElems (encPriceElems ps ++ post) 0 ps.length = some ps := by
  induction ps with
  | nil => rfl
  | cons p rest ih =>
    obtain ⟨h1, h2⟩ := hw p (List.mem_cons_self ..)
    have hr := ih fun q hq => hw q (List.mem_cons_of_mem _ hq)
    have e : p.sid ++ word p.price ++ encPriceElems rest ++ post = (p.sid ++ word p.price) ++ (encPriceElems rest ++ post) := by
      simp
    simp only [encPriceElems, rdPriceElems, List.length_cons]
    rw [e, rdPriceElems_skip (k := 64) (by simp [h1]) (Nat.le_refl _)]
    simp [h1, hr, List.take_left' h1, List.drop_left' h1, List.take_left' (word_length _), fromBE_word _ h2]
    omega

theorem rdPriceArray_head {ps : List RelayPrice} {post : Bytes} (hw : ∀ p ∈ ps, WFPrice p) (hn : ps.length < 2 ^ 256) :
    rdPriceArray (encPriceArray ps ++ post) 0 = some ps := by
  simp [rdPriceArray, encPriceArray, rdWord_word hn, rdPriceElems_skip (word_length _), rdPriceElems_head ps post hw]

end BandVerif.Enc
