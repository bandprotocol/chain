/- Lemmas over Model/FeedsSubmit.lean (feeds `SubmitSignalPrices`), used by C15 and C20.  In the order of the handler: the
   feed index (`idxOf`), the re-indexing of the previous list (`fill`), the loop over the submitted prices (`applyMsg`: what an
   accepted loop leaves, and what makes it accept), the handler itself (`submit`).  The two examples at the end run the
   handler on a re-ranked feed list. -/
import BandVerif.Model.FeedsSubmit

namespace BandVerif.FeedsSubmit

theorem idxOf_some {feeds : List String} {sid : String} {i : Nat} (h : idxOf feeds sid = some i) : i < feeds.length ∧ feeds[i]? = some sid := by
  unfold idxOf at h
  split at h
  · rename_i hlt
    cases h
    refine ⟨hlt, ?_⟩
    have := List.findIdx_getElem (w := hlt)
    rw [List.getElem?_eq_getElem hlt]
    simp only [beq_iff_eq] at this
    rw [this]
  · cases h

theorem idxOf_inj {feeds : List String} {a b : String} {i : Nat} (ha : idxOf feeds a = some i) (hb : idxOf feeds b = some i) : a = b := by
  have h1 := (idxOf_some ha).2
  have h2 := (idxOf_some hb).2
  rw [h1] at h2
  exact Option.some.inj h2

theorem getElem?_set_some {acc : List VP} {k j : Nat} {x w : VP} (h : (acc.set k x)[j]? = some w) :
    (j = k ∧ w = x) ∨ acc[j]? = some w := by
  rw [List.getElem?_set] at h
  split at h
  · rename_i e; split at h
    · cases h; exact .inl ⟨e.symm, rfl⟩
    · cases h
  · exact .inr h

theorem fill_length (feeds : List String) (prev : List VP) : (fill feeds prev).length = feeds.length :=
  List.foldlRecOn prev (fillStep feeds) (motive := fun acc => acc.length = feeds.length) List.length_replicate
    fun acc ih p _ => by unfold fillStep; split <;> simp [ih]

/-- every entry of the re-indexed list is empty or a previous price OF THE SIGNAL AT THAT POSITION -/
theorem fill_entries (feeds : List String) (prev : List VP) (i : Nat) (v : VP) (h : (fill feeds prev)[i]? = some v) :
    v = VP.zero ∨ (v ∈ prev ∧ feeds[i]? = some v.sid) := by
  refine List.foldlRecOn prev (fillStep feeds)
    (motive := fun acc => ∀ j w, acc[j]? = some w → w = VP.zero ∨ (w ∈ prev ∧ feeds[j]? = some w.sid)) ?_ ?_ i v h
  · intro j w hw
    rw [List.getElem?_replicate] at hw
    split at hw <;> cases hw
    exact .inl rfl
  · intro acc ih p hp j w hw
    unfold fillStep at hw
    split at hw
    · rename_i k hk
      rcases getElem?_set_some hw with ⟨rfl, rfl⟩ | h0
      · exact .inr ⟨hp, (idxOf_some hk).2⟩
      · exact ih j w h0
    · exact ih j w hw

/-- an entry of an accepted list: stamped by this submission, or untouched -/
def Stamped (blockTime height : Int) (msg : List (String × Nat × Nat)) (v : VP) : Prop :=
  v.ts = blockTime ∧ v.bh = height ∧ ∃ m ∈ msg, m.1 = v.sid ∧ m.2.1 = v.status ∧ m.2.2 = v.price

/-- what an accepted loop leaves of a list as long as the feed list: the length; every entry is an old one or one stamped now
    for the signal at its position; every submitted signal has an index, and its entry there is stamped -/
theorem applyMsg_spec (feeds : List String) (blockTime height cooldown : Int) (msg : List (String × Nat × Nat)) (acc out : List VP)
    (hlen : acc.length = feeds.length) (h : applyMsg feeds blockTime height cooldown acc msg = .ok out) :
    out.length = feeds.length ∧
    (∀ (i : Nat) (v : VP), out[i]? = some v → acc[i]? = some v ∨ (Stamped blockTime height msg v ∧ feeds[i]? = some v.sid)) ∧
    (∀ m ∈ msg, ∃ (i : Nat) (v : VP), idxOf feeds m.1 = some i ∧ out[i]? = some v ∧ v.sid = m.1 ∧ v.ts = blockTime ∧ v.bh = height) := by
  fun_induction applyMsg feeds blockTime height cooldown acc msg with
  | case1 acc => cases h; exact ⟨hlen, fun i v hv => .inl hv, nofun⟩
  | case2 => cases h
  | case3 => cases h
  | case4 acc sid st price rest k hi latest _ ih =>
    obtain ⟨r1, r2, r3⟩ := ih (by rw [List.length_set, hlen]) h
    obtain ⟨hk, hf⟩ := idxOf_some hi
    refine ⟨r1, fun i v hv => ?_, fun m' hm' => ?_⟩
    · rcases r2 i v hv with h0 | ⟨⟨a, b, m', hm', c⟩, hf'⟩
      · rcases getElem?_set_some h0 with ⟨rfl, rfl⟩ | h1
        · exact .inr ⟨⟨rfl, rfl, _, List.mem_cons_self .., rfl, rfl, rfl⟩, hf⟩
        · exact .inl h1
      · exact .inr ⟨⟨a, b, m', List.mem_cons_of_mem _ hm', c⟩, hf'⟩
    · rcases List.mem_cons.mp hm' with rfl | hr
      · -- the entry written now stays stamped: later writes at the same index are stamped writes of the same signal
        obtain ⟨v, hv⟩ : ∃ v, out[k]? = some v := ⟨out[k]'(r1 ▸ hk), List.getElem?_eq_getElem _⟩
        refine ⟨k, v, hi, hv, ?_⟩
        rcases r2 k v hv with h0 | ⟨⟨a, b, _⟩, hf'⟩
        · rw [List.getElem?_set_self (hlen ▸ hk)] at h0; cases h0; exact ⟨rfl, rfl, rfl⟩
        · exact ⟨Option.some.inj (hf'.symm.trans hf), a, b⟩
      · exact r3 m' hr

/-- the per-price rule of the handler, read on the re-indexed previous list -/
def Admissible (feeds : List String) (acc : List VP) (blockTime cooldown : Int) (m : String × Nat × Nat) : Prop :=
  ∃ i, idxOf feeds m.1 = some i ∧ ((acc.getD i VP.zero).status = 0 ∨ blockTime ≥ (acc.getD i VP.zero).ts + cooldown)

theorem applyMsg_ok (feeds : List String) (blockTime height cooldown : Int) (msg : List (String × Nat × Nat)) (acc : List VP)
    (hnd : (msg.map (·.1)).Nodup) (hall : ∀ m ∈ msg, Admissible feeds acc blockTime cooldown m) :
    ∃ out, applyMsg feeds blockTime height cooldown acc msg = .ok out := by
  fun_induction applyMsg feeds blockTime height cooldown acc msg with
  | case1 acc => exact ⟨acc, rfl⟩
  | case2 acc sid st price rest hi =>
    obtain ⟨i, hi', _⟩ := hall _ (List.mem_cons_self ..)
    cases hi.symm.trans hi'
  | case3 acc sid st price rest k hi latest hearly =>
    obtain ⟨i, hi', hadm⟩ := hall _ (List.mem_cons_self ..)
    cases hi.symm.trans hi'
    have h2 : blockTime < (acc.getD k VP.zero).ts + cooldown := hearly.2
    exact hadm.elim (absurd · hearly.1) fun h => by omega
  | case4 acc sid st price rest k hi latest _ ih =>
    obtain ⟨hnot, hnd⟩ := List.nodup_cons.mp hnd
    refine ih hnd fun m' hm' => ?_
    obtain ⟨j, hj, hadm'⟩ := hall m' (List.mem_cons_of_mem _ hm')
    -- the entry of another signal is not the one just written
    have hne : k ≠ j := fun e => hnot (List.mem_map.mpr ⟨m', hm', (idxOf_inj hi (e ▸ hj)).symm⟩)
    exact ⟨j, hj, by rwa [List.getD_eq_getElem?_getD, List.getElem?_set_ne hne]⟩

theorem submit_ok {feeds : List String} {prev : List VP} {msg : List (String × Nat × Nat)} {msgTs blockTime height cooldown disc : Int}
    {required : Bool} {out : List VP} (h : submit feeds prev msg msgTs blockTime height cooldown disc required = .ok out) :
    applyMsg feeds blockTime height cooldown (fill feeds prev) msg = .ok out := by
  unfold submit at h
  split at h
  · cases h
  split at h
  · cases h
  split at h
  · cases h
  · exact h

/-- PROPERTY (the sender's timestamp only gates admission): two submissions that differ only in the sender's timestamp,
    both within the allowed discrepancy, store the same list -/
theorem sender_timestamp_is_not_stored (feeds : List String) (prev : List VP) (msg : List (String × Nat × Nat)) (t1 t2 blockTime height cooldown disc : Int)
    (required : Bool) (h1 : absI (t1 - blockTime) ≤ disc) (h2 : absI (t2 - blockTime) ≤ disc) :
    submit feeds prev msg t1 blockTime height cooldown disc required = submit feeds prev msg t2 blockTime height cooldown disc required := by
  unfold submit
  have a : ¬ absI (t1 - blockTime) > disc := by omega
  have b : ¬ absI (t2 - blockTime) > disc := by omega
  simp only [a, b]

/-- what a sender must check: a message of distinct current signals, none of them inside its cool-down on the
    stored list, from a validator that is required to send, with a timestamp within the allowed discrepancy, is accepted -/
theorem admissible_message_accepted (feeds : List String) (prev : List VP) (msg : List (String × Nat × Nat)) (msgTs blockTime height cooldown disc : Int)
    (hsz : msg.length ≤ feeds.length) (hts : absI (msgTs - blockTime) ≤ disc) (hnd : (msg.map (·.1)).Nodup)
    (hall : ∀ m ∈ msg, Admissible feeds (fill feeds prev) blockTime cooldown m) :
    ∃ out, submit feeds prev msg msgTs blockTime height cooldown disc true = .ok out := by
  unfold submit
  rw [if_neg (by omega)]
  simp only [Bool.not_true, Bool.false_eq_true, if_false]
  rw [if_neg (by omega)]
  exact applyMsg_ok feeds blockTime height cooldown msg _ hnd hall

instance : DecidableEq (Except Err (List VP)) := fun a b =>
  match a, b with
  | .ok x, .ok y => if h : x = y then isTrue (by rw [h]) else isFalse (fun e => h (by cases e; rfl))
  | .error x, .error y => if h : x = y then isTrue (by rw [h]) else isFalse (fun e => h (by cases e; rfl))
  | .ok _, .error _ => isFalse (fun e => by cases e)
  | .error _, .ok _ => isFalse (fun e => by cases e)

/-! non-vacuity: a re-ranked feed list, a kept price, a new price, a sender clock 45 s behind -/
example : submit ["B", "A"] [⟨3, "A", 7, 100, 5⟩, ⟨3, "B", 9, 160, 8⟩] [("A", 3, 8)] 135 180 10 30 60 true =
    .ok [⟨3, "B", 9, 160, 8⟩, ⟨3, "A", 8, 180, 10⟩] := by decide
example : submit ["B", "A"] [⟨3, "A", 7, 100, 5⟩, ⟨3, "B", 9, 160, 8⟩] [("B", 3, 8)] 180 180 10 30 60 true = .error .tooEarly := by decide

end BandVerif.FeedsSubmit
