/- What the operations of the signing model WRITE and what they RETURN; the proofs about the invariants start from these.
   `X.written s t` is `s` with the fields that `X` writes taken from `t`, and `X_frame f hf : f (X s ..) = f s` for a
   function `f` of the state that does not read them: `hf : ∀ s t, f (X.written s t) = f s` says so and is
   `fun _ _ => rfl` at every use outside this file (here a composite hands its `hf` down: `fun s t => hf s (Y.written s t)`;
   a loop takes the field list of its step).  Every `X.written` lists its fields, also where `X` calls a `Y` that has one:
   defined on top of one another they run `isDefEq` into its limit in the frame proofs.
   `X_inv`, for the three loops of the end-blocker (`aggregateAll`, `expireGo`, `retryAll`): what every step keeps, the
   loop keeps.  (`dequeueAll_inv` is no such rule: it says that `dequeueAll` keeps `QInv`.)
   `X_cases`: a handler is rejected and returns its input state, or returns one explicit state, built from `initiated`,
   `fresh`, `escrowed`, `recordB`, `addPartial`, `fallen`, with what its guards have established; an equation on what the
   handler returns, because the handler above it matches on that.
   At the end C05, the DE tokens.  Core-only. -/
import BandVerif.Model.Signing
import BandVerif.Common.ListFacts

namespace BandVerif.Signing

/-- the payout loop in closed form: `fee` leaves the escrow once per listed member, and a member receives it as often as
    it is listed -/
theorem payAll_eq (fee : Coins) (l : List Nat) (s : State) :
    payAll s fee l = { s with escrow := fun d => s.escrow d - fee d * l.length, bal := fun a d => s.bal a d + fee d * l.count a } := by
  induction l generalizing s with
  | nil => rfl
  | cons m rest ih =>
    have e : (fun d => subC s.escrow fee d - fee d * rest.length) = fun d => s.escrow d - fee d * (rest.length + 1) :=
      funext fun d => by simp only [subC, Nat.mul_add, Nat.mul_one]; omega
    have b : (fun a d => (if a = m then addC (s.bal m) fee else s.bal a) d + fee d * rest.count a) =
        fun a d => s.bal a d + fee d * (m :: rest).count a := funext fun a => funext fun d => by
      by_cases h : m = a
      · subst h; simp [addC, Nat.mul_add]; omega
      · simp [h, Ne.symm h]
    rw [payAll, ih]
    show ({ s with escrow := _, bal := _ } : State) = _
    rw [e, b]; rfl

def onCompleted.written (s t : State) : State :=
  { s with completedLog := t.completedLog, mapping := t.mapping, escrow := t.escrow, bal := t.bal }

theorem onCompleted_frame {α : Sort _} (f : State → α) (hf : ∀ s t, f (onCompleted.written s t) = f s)
    (s : State) (sid : Nat) (assigned : List Nat) : f (onCompleted s sid assigned) = f s := by
  have upd : ∀ cl mp e b, f { s with completedLog := cl, mapping := mp, escrow := e, bal := b } = f s :=
    fun cl mp e b => hf s { s with completedLog := cl, mapping := mp, escrow := e, bal := b }
  unfold onCompleted
  simp only []
  split
  · exact upd ..
  · split
    · exact upd ..
    · split
      · exact upd ..
      · rw [payAll_eq]; exact upd ..

def onTimeout.written (s t : State) : State :=
  { s with bActive := t.bActive, bSince := t.bSince, tssActive := t.tssActive, penalised := t.penalised }

theorem onTimeout_frame {α : Sort _} (f : State → α) (hf : ∀ s t, f (onTimeout.written s t) = f s)
    (sid att : Nat) (nowNs : Int) (l : List Nat) (s : State) : f (onTimeout s sid att nowNs l) = f s := by
  induction l generalizing s with
  | nil => rfl
  | cons m rest ih =>
    rw [onTimeout, ih]
    split
    · exact hf s { s with bActive := _, bSince := _, tssActive := _, penalised := _ }
    · rfl

/-- one step of `aggregateAll`: SUCCESS, then the completion callback -/
def aggOne (s : State) (sid : Nat) (sg : Sig) : State :=
  onCompleted { s with signings := fun i => if i = sid then some { sg with status := stSuccess } else s.signings i } sid
    (((s.attempts sid sg.attempt).map (·.assigned.map (·.1))).getD [])

theorem aggregateAll_inv (P : State → Prop) (step : ∀ s sid sg, s.signings sid = some sg → P s → P (aggOne s sid sg))
    (l : List Nat) (s : State) (h : P s) : P (aggregateAll s l) := by
  fun_induction aggregateAll s l with
  | case1 => exact h
  | case2 _ _ _ _ ih => exact ih h
  | case3 s sid _ sg hs _ _ ih => exact ih (step s sid sg hs h)

def aggregateAll.written (s t : State) : State :=
  { s with signings := t.signings, completedLog := t.completedLog, mapping := t.mapping, escrow := t.escrow, bal := t.bal }

theorem aggregateAll_frame {α : Sort _} (f : State → α) (hf : ∀ s t, f (aggregateAll.written s t) = f s)
    (l : List Nat) (s : State) : f (aggregateAll s l) = f s := by
  have sgn : ∀ (s1 : State) sg, f { s1 with signings := sg } = f s1 := fun s1 sg => hf s1 { s1 with signings := sg }
  exact aggregateAll_inv (f · = f s) (fun s' sid _ _ h =>
    ((onCompleted_frame f (fun s t => hf s (onCompleted.written s t)) ..).trans (sgn ..)).trans h) l s rfl

/-- the state after the expiry pass has consumed the head entry `(sid, att)` -/
def consumeHead (s : State) (sid att : Nat) (sg : Sig) (atm : Attempt) (nowNs : Int) : State :=
  let timedOut := (s.partials sid att).length ≠ atm.assigned.length
  let idle := ((s.attempts sid sg.attempt).map fun c => (c.assigned.map (·.1)).filter fun m => !(s.partials sid sg.attempt).contains m).getD []
  let s1 := if timedOut then onTimeout s sid sg.attempt nowNs idle else s
  { s1 with partials := fun i a => if i = sid ∧ a = att then [] else s1.partials i a,
            attempts := fun i a => if i = sid ∧ a = att then none else s1.attempts i a }

theorem expireGo_inv (P : State → Prop) (height nowNs : Int)
    (step : ∀ s sid att sg atm, s.signings sid = some sg → s.attempts sid att = some atm → P s → P (consumeHead s sid att sg atm nowNs))
    (l : List (Nat × Nat)) (s : State) (acc : List Nat) (n : Nat) (h : P s) : P (expireGo height nowNs l s acc n).1 := by
  fun_induction expireGo height nowNs l s acc n with
  | case1 => exact h
  | case2 => exact h
  | case3 sid att _ s _ _ sg atm ha hs _ _ _ _ _ ih => exact ih (step s sid att sg atm hs ha h)
  | case4 => exact h

/-- consuming an entry clears its attempt record and its partial signatures; the timeout callback touches neither,
    nor the signing records -/
theorem consumeHead_keep (s : State) (sid att : Nat) (sg : Sig) (atm : Attempt) (nowNs : Int) :
    (consumeHead s sid att sg atm nowNs).signings = s.signings ∧
    (∀ i a, (consumeHead s sid att sg atm nowNs).attempts i a = if i = sid ∧ a = att then none else s.attempts i a) ∧
    (∀ i a, (consumeHead s sid att sg atm nowNs).partials i a = if i = sid ∧ a = att then [] else s.partials i a) := by
  unfold consumeHead
  simp only []
  split
  · exact ⟨onTimeout_frame (·.signings) (fun _ _ => rfl) .., fun i a => by rw [onTimeout_frame (·.attempts) fun _ _ => rfl],
      fun i a => by rw [onTimeout_frame (·.partials) fun _ _ => rfl]⟩
  · exact ⟨rfl, fun _ _ => rfl, fun _ _ => rfl⟩

def consumeHead.written (s t : State) : State :=
  { s with partials := t.partials, attempts := t.attempts, bActive := t.bActive, bSince := t.bSince, tssActive := t.tssActive,
           penalised := t.penalised }

theorem consumeHead_frame {α : Sort _} (f : State → α) (hf : ∀ s t, f (consumeHead.written s t) = f s)
    (s : State) (sid att : Nat) (sg : Sig) (atm : Attempt) (nowNs : Int) : f (consumeHead s sid att sg atm nowNs) = f s := by
  have clr : ∀ (s1 : State) p a, f { s1 with partials := p, attempts := a } = f s1 :=
    fun s1 p a => hf s1 { s1 with partials := p, attempts := a }
  unfold consumeHead
  simp only []
  split
  · exact (clr ..).trans (onTimeout_frame f (fun s t => hf s (onTimeout.written s t)) ..)
  · exact clr ..

theorem expireGo_frame {α : Sort _} (f : State → α) (hf : ∀ s t, f (consumeHead.written s t) = f s)
    (height nowNs : Int) (l : List (Nat × Nat)) (s : State) (acc : List Nat) (n : Nat) : f (expireGo height nowNs l s acc n).1 = f s :=
  expireGo_inv (f · = f s) height nowNs (fun s' sid att sg atm _ _ h => (consumeHead_frame f hf s' sid att sg atm nowNs).trans h) l s acc n rfl

theorem sublist_update {q : Nat → List Nat} {m : Nat} {ts : List Nat} (h : ts.Sublist (q m)) (x : Nat) :
    (if x = m then ts else q x).Sublist (q x) := by
  split
  · rename_i e; exact e ▸ h
  · exact .refl _

theorem dequeueAll_sublist (c : List Nat) (q : Nat → List Nat) (x : Nat) : ((dequeueAll q c).2 x).Sublist (q x) := by
  fun_induction dequeueAll q c with
  | case1 => exact .refl _
  | case2 _ _ _ _ ih => exact ih
  | case3 q m _ t ts hq _ _ e ih => rw [e] at ih; exact ih.trans (sublist_update (hq ▸ List.sublist_cons_self ..) x)

theorem dequeueAll_ids_sublist (c : List Nat) (q : Nat → List Nat) : ((dequeueAll q c).1.map (·.1)).Sublist c := by
  fun_induction dequeueAll q c with
  | case1 => exact .slnil
  | case2 _ _ _ _ ih => exact ih.cons _
  | case3 _ _ _ _ _ _ _ _ e ih => rw [e] at ih; exact ih.cons_cons _

theorem dequeueAll_length (c : List Nat) (q : Nat → List Nat) : (dequeueAll q c).1.length ≤ c.length := by
  simpa using (dequeueAll_ids_sublist c q).length_le

theorem dequeueAll_ne_nil (s : State) (c : List Nat) (hc : c ≠ []) (hb : headBad s c = false) : (dequeueAll s.queues c).1 ≠ [] := by
  cases c with
  | nil => exact absurd rfl hc
  | cons m rest =>
    simp only [headBad, List.any_cons] at hb
    cases hq : s.queues m with
    | nil => rw [hq] at hb; simp at hb
    | cons t ts =>
      simp only [dequeueAll, hq]
      exact List.cons_ne_nil _ _

/-- the state after a successful start of round `att` of signing `sid` -/
def initiated (s : State) (sid att : Nat) (c : List Nat) (height : Int) : State :=
  { s with queues := (dequeueAll s.queues c).2,
           signings := fun i => if i = sid then some { status := stWaiting, attempt := att } else s.signings i,
           attempts := fun i a => if i = sid ∧ a = att then some { expiredHeight := height + s.signingPeriod, assigned := (dequeueAll s.queues c).1 } else s.attempts i a,
           expirations := s.expirations ++ [(sid, att)],
           assignedLog := s.assignedLog ++ (dequeueAll s.queues c).1.map fun (m, t) => (sid, att, m, t) }

theorem initiate_cases (s : State) (sid : Nat) (c : List Nat) (height : Int) :
    (∃ e, e ≠ Err.ok ∧ initiate s sid c height = (s, e)) ∨
    (∃ sg, s.signings sid = some sg ∧ sg.attempt + 1 ≤ s.maxAttempt ∧ s.threshold ≤ (available s).length ∧ headBad s c = false ∧
      initiate s sid c height = (initiated s sid (sg.attempt + 1) c height, Err.ok)) := by
  unfold initiate
  cases hs : s.signings sid with
  | none => exact .inl ⟨.signingNotFound, nofun, rfl⟩
  | some sg =>
    simp only []
    -- `by_cases` with `if_pos`/`if_neg` and not `split`: an eighth of the cost on terms of this size
    by_cases h1 : sg.attempt + 1 > s.maxAttempt
    · rw [if_pos h1]; exact .inl ⟨.maxAttempt, nofun, rfl⟩
    · by_cases h2 : s.threshold > (available s).length
      · rw [if_neg h1, if_pos h2]; exact .inl ⟨.noSigners, nofun, rfl⟩
      · by_cases h3 : headBad s c = true
        · rw [if_neg h1, if_neg h2, if_pos h3]; exact .inl ⟨.createFailed, nofun, rfl⟩
        · rw [if_neg h1, if_neg h2, if_neg h3]
          exact .inr ⟨sg, rfl, Nat.le_of_not_gt h1, Nat.le_of_not_gt h2, Bool.eq_false_iff.mpr h3, rfl⟩

/-- the state with the fresh signing record (attempt 0) that CreateSigning writes -/
def fresh (s : State) : State :=
  { s with count := s.count + 1, signings := fun i => if i = s.count + 1 then some { status := stWaiting, attempt := 0 } else s.signings i }

theorem tssRequest_cases (s : State) (c : List Nat) (height : Int) :
    (∃ e, e ≠ Err.ok ∧ tssRequest s c height = (s, e)) ∨
    (1 ≤ s.maxAttempt ∧ s.threshold ≤ (available s).length ∧ headBad s c = false ∧
      tssRequest s c height = (initiated (fresh s) (s.count + 1) 1 c height, Err.ok)) := by
  have unf : tssRequest s c height = match initiate (fresh s) (s.count + 1) c height with
      | (s2, .ok) => (s2, .ok)
      | (_, e) => (s, e) := rfl
  rcases initiate_cases (fresh s) (s.count + 1) c height with ⟨e, he, h⟩ | ⟨sg, hs, hm, ht, hb, h⟩
  · rw [unf, h]
    -- the match `| (s2, .ok) => … | (_, e) => (s, e)` reduces only once `e` is a constructor; so here and in the like places below
    exact .inl ⟨e, he, by cases e <;> first | rfl | exact absurd rfl he⟩
  · rw [unf, h]
    -- `sg` is the record `fresh` has just written, so `sg.attempt + 1` is `1`
    cases (Option.some.inj ((if_pos rfl).symm.trans hs) : _ = sg)
    exact .inr ⟨hm, ht, hb, rfl⟩

theorem escrowed_eq (s : State) (sender : Nat) (auth : Bool) : ∃ b e, escrowed s sender auth = { s with bal := b, escrow := e } := by
  unfold escrowed
  split
  · exact ⟨s.bal, s.escrow, rfl⟩
  · exact ⟨_, _, rfl⟩

theorem request_cases (s : State) (sender : Nat) (auth : Bool) (limit : Coins) (c : List Nat) (height : Int) :
    (∃ e, e ≠ Err.ok ∧ request s sender auth limit c height = (s, e)) ∨
    (∃ b e, escrowed s sender auth = { s with bal := b, escrow := e } ∧ requestErr s sender auth limit = Err.ok ∧
      1 ≤ s.maxAttempt ∧ headBad s c = false ∧ request s sender auth limit c height =
        (recordB (initiated (fresh { s with bal := b, escrow := e }) (s.count + 1) 1 c height) (feeFor s auth) sender, Err.ok)) := by
  obtain ⟨b, e, he⟩ := escrowed_eq s sender auth
  unfold request
  split
  · rename_i hr
    rcases tssRequest_cases (escrowed s sender auth) c height with ⟨e', he', h⟩ | ⟨hm, -, hb, h⟩
    · rw [h]
      exact .inl ⟨e', he', by cases e' <;> first | rfl | exact absurd rfl he'⟩
    · rw [h]
      rw [he] at hm hb ⊢
      exact .inr ⟨b, e, rfl, hr, hm, hb, rfl⟩
  · rename_i hr
    exact .inl ⟨_, hr, rfl⟩

def request.written (s t : State) : State :=
  { s with bal := t.bal, escrow := t.escrow, count := t.count, signings := t.signings, queues := t.queues,
           attempts := t.attempts, expirations := t.expirations, assignedLog := t.assignedLog, bcount := t.bcount,
           bsigs := t.bsigs, mapping := t.mapping }

theorem request_frame {α : Sort _} (f : State → α) (hf : ∀ s t, f (request.written s t) = f s) (s : State) (sender : Nat) (auth : Bool) (limit : Coins) (c : List Nat) (height : Int) :
    f (request s sender auth limit c height).1 = f s := by
  rcases request_cases s sender auth limit c height with ⟨e, -, he⟩ | ⟨b, e, -, -, -, -, he⟩ <;> rw [he]
  exact hf s (recordB (initiated (fresh { s with bal := b, escrow := e }) (s.count + 1) 1 c height) (feeFor s auth) sender)

theorem addPartial_eq (s : State) (sid att member len : Nat) : addPartial s sid att member len =
    { s with partials := fun i a => if i = sid ∧ a = att then s.partials sid att ++ [member] else s.partials i a,
             pending := if (s.partials sid att).length + 1 = len then s.pending ++ [sid] else s.pending } := by
  unfold addPartial
  simp only [List.length_append, List.length_singleton, beq_iff_eq]
  split <;> rfl

theorem submit_cases (s : State) (sid member : Nat) (signerOk valid : Bool) :
    (∃ e, e ≠ Err.ok ∧ submit s sid member signerOk valid = (s, e)) ∨
    (∃ sg atm, s.signings sid = some sg ∧ sg.status = stWaiting ∧ s.attempts sid sg.attempt = some atm ∧
      member ∈ atm.assigned.map (·.1) ∧ member ∉ s.partials sid sg.attempt ∧ signerOk = true ∧ valid = true ∧
      submit s sid member signerOk valid = (addPartial s sid sg.attempt member atm.assigned.length, Err.ok)) := by
  unfold submit
  split
  · rename_i hok
    unfold submitErr at hok
    cases hs : s.signings sid with
    | none => simp [hs] at hok
    | some sg =>
      cases ha : s.attempts sid sg.attempt with
      | none => simp only [hs, ha] at hok; split at hok <;> cases hok
      | some atm =>
        simp only [hs, ha] at hok
        split at hok; · cases hok
        split at hok; · cases hok
        split at hok; · cases hok
        split at hok; · cases hok
        rename_i hw h1 h2 h3
        simp only [Bool.or_eq_true, Bool.not_eq_true', not_or, Bool.not_eq_false, List.any_eq_true, beq_iff_eq] at h1
        obtain ⟨⟨x, hx, rfl⟩, hsok⟩ := h1
        exact .inr ⟨sg, atm, rfl, by simpa using hw, ha, List.mem_map_of_mem hx, by simpa using h2, hsok, by simpa using h3, by simp only [ha]⟩
  · rename_i hr
    exact .inl ⟨_, hr, rfl⟩

def submit.written (s t : State) : State := { s with partials := t.partials, pending := t.pending }

theorem submit_frame {α : Sort _} (f : State → α) (hf : ∀ s t, f (submit.written s t) = f s)
    (s : State) (sid member : Nat) (signerOk valid : Bool) : f (submit s sid member signerOk valid).1 = f s := by
  rcases submit_cases s sid member signerOk valid with ⟨e, -, he⟩ | ⟨sg, atm, -, -, -, -, -, -, -, he⟩ <;> rw [he]
  rw [addPartial_eq]; exact hf s { s with partials := _, pending := _ }

theorem activate_cases (s : State) (m : Nat) (nowNs : Int) :
    (∃ e, e ≠ Err.ok ∧ activate s m nowNs = (s, e)) ∨
    (m ∈ s.members ∧ s.bActive m = false ∧ s.bSince m + s.penalty ≤ nowNs ∧ activate s m nowNs =
      ({ s with bActive := fun x => if x = m then true else s.bActive x, bSince := fun x => if x = m then nowNs else s.bSince x,
                tssActive := fun x => if x = m then true else s.tssActive x }, Err.ok)) := by
  unfold activate
  by_cases h1 : m ∉ s.members
  · rw [if_pos h1]; exact .inl ⟨.memberNotFound, nofun, rfl⟩
  · by_cases h2 : s.bActive m = true
    · rw [if_neg h1, if_pos h2]; exact .inl ⟨.alreadyActive, nofun, rfl⟩
    · by_cases h3 : s.bSince m + s.penalty > nowNs
      · rw [if_neg h1, if_neg h2, if_pos h3]; exact .inl ⟨.penaltyNotElapsed, nofun, rfl⟩
      · rw [if_neg h1, if_neg h2, if_neg h3]
        exact .inr ⟨Decidable.not_not.mp h1, Bool.eq_false_iff.mpr h2, Int.not_lt.mp h3, rfl⟩

theorem enqueue_cases (s : State) (m k : Nat) :
    ((s.queues m).length + k > s.maxDE ∧ enqueue s m k = (s, .deLimit)) ∨
    ((s.queues m).length + k ≤ s.maxDE ∧ enqueue s m k =
      ({ s with queues := fun x => if x = m then s.queues m ++ (List.range k).map (· + s.nextToken) else s.queues x,
                nextToken := s.nextToken + k }, Err.ok)) := by
  unfold enqueue
  by_cases h : (s.queues m).length + k > s.maxDE
  · rw [if_pos h]; exact .inl ⟨h, rfl⟩
  · rw [if_neg h]; exact .inr ⟨Nat.le_of_not_gt h, rfl⟩

/-- the state after HandleFailedSigning -/
def fallen (s : State) (sid : Nat) (sg : Sig) : State :=
  onFailed { s with signings := fun i => if i = sid then some { sg with status := stFallen } else s.signings i } sid

theorem retryOne_cases (s : State) (sid : Nat) (c : List Nat) (height : Int) :
    (∃ sg, s.signings sid = some sg ∧ sg.attempt + 1 ≤ s.maxAttempt ∧ headBad s c = false ∧
      (initiate s sid c height).2 = Err.ok ∧ retryOne s sid c height = initiated s sid (sg.attempt + 1) c height) ∨
    (∃ sg, s.signings sid = some sg ∧ (initiate s sid c height).2 ≠ Err.ok ∧ retryOne s sid c height = fallen s sid sg) ∨
    (s.signings sid = none ∧ retryOne s sid c height = s) := by
  unfold retryOne
  rcases initiate_cases s sid c height with ⟨e, he, h⟩ | ⟨sg, hs, hm, -, hb, h⟩
  · rw [h]
    cases hs : s.signings sid with
    | none => exact .inr (.inr ⟨rfl, by cases e <;> first | rfl | exact absurd rfl he⟩)
    | some sg => exact .inr (.inl ⟨sg, rfl, he, by cases e <;> first | rfl | exact absurd rfl he⟩)
  · rw [h]
    exact .inl ⟨sg, hs, hm, hb, rfl, rfl⟩

def retryOne.written (s t : State) : State :=
  { s with queues := t.queues, signings := t.signings, attempts := t.attempts, expirations := t.expirations,
           assignedLog := t.assignedLog, mapping := t.mapping, failedLog := t.failedLog }

theorem retryOne_frame {α : Sort _} (f : State → α) (hf : ∀ s t, f (retryOne.written s t) = f s)
    (s : State) (sid : Nat) (c : List Nat) (height : Int) : f (retryOne s sid c height) = f s := by
  rcases retryOne_cases s sid c height with ⟨sg, -, -, -, -, e⟩ | ⟨sg, -, -, e⟩ | ⟨-, e⟩
  · rw [e]; exact hf s (initiated s sid (sg.attempt + 1) c height)
  · rw [e]; exact hf s (fallen s sid sg)
  · rw [e]

theorem retryAll_inv (P : State → Prop) (committee : Nat → List Nat) (height : Int)
    (step : ∀ s sid, P s → P (retryOne s sid (committee sid) height)) (l : List Nat) (s : State) (h : P s) :
    P (retryAll committee height l s) := by
  induction l generalizing s with
  | nil => exact h
  | cons sid rest ih => exact ih _ (step s sid h)

theorem retryAll_frame {α : Sort _} (f : State → α) (hf : ∀ s t, f (retryOne.written s t) = f s)
    (committee : Nat → List Nat) (height : Int) (l : List Nat) (s : State) : f (retryAll committee height l s) = f s :=
  retryAll_inv (f · = f s) committee height (fun s' sid h => (retryOne_frame f hf s' sid _ height).trans h) l s rfl

/-- the state after phase A (pending signings aggregated) -/
def aggd (s : State) : State := { aggregateAll s s.pending with pending := [] }

/-- phase B, the expiry pass over the FIFO as phase A left it: (state, timed-out ids, number of consumed entries); the number
    is `consumed height nowNs (aggd s).expirations (aggd s)` of SigningHist.lean, by definition -/
def expiryPass (s : State) (height nowNs : Int) : State × List Nat × Nat :=
  expireGo height nowNs (aggd s).expirations (aggd s) [] 0

/-- the state after phase B (the consumed entries dropped from the FIFO) -/
def expd (s : State) (height nowNs : Int) : State :=
  { (expiryPass s height nowNs).1 with
    expirations := (expiryPass s height nowNs).1.expirations.drop (expiryPass s height nowNs).2.2 }

theorem endBlock_eq (s : State) (committee : Nat → List Nat) (height nowNs : Int) :
    endBlock s committee height nowNs = retryAll committee height (expiryPass s height nowNs).2.1 (expd s height nowNs) := rfl

def aggd.written (s t : State) : State :=
  { s with signings := t.signings, completedLog := t.completedLog, mapping := t.mapping, escrow := t.escrow, bal := t.bal,
           pending := t.pending }

theorem aggd_frame {α : Sort _} (f : State → α) (hf : ∀ s t, f (aggd.written s t) = f s) (s : State) : f (aggd s) = f s :=
  (hf _ { aggregateAll s s.pending with pending := [] }).trans
    (aggregateAll_frame f (fun s t => hf s (aggregateAll.written s t)) ..)

theorem aggd_keeps (s : State) :
    (aggd s).attempts = s.attempts ∧ (aggd s).partials = s.partials ∧ (aggd s).expirations = s.expirations :=
  ⟨aggd_frame (·.attempts) (fun _ _ => rfl) s, aggd_frame (·.partials) (fun _ _ => rfl) s, aggd_frame (·.expirations) (fun _ _ => rfl) s⟩

def expd.written (s t : State) : State :=
  { s with signings := t.signings, completedLog := t.completedLog, mapping := t.mapping, escrow := t.escrow, bal := t.bal,
           pending := t.pending, partials := t.partials, attempts := t.attempts, bActive := t.bActive, bSince := t.bSince,
           tssActive := t.tssActive, penalised := t.penalised, expirations := t.expirations }

theorem expd_frame {α : Sort _} (f : State → α) (hf : ∀ s t, f (expd.written s t) = f s)
    (s : State) (height nowNs : Int) : f (expd s height nowNs) = f s := by
  have hE : ∀ (s : State) ex, f { s with expirations := ex } = f s := fun s ex => hf s { s with expirations := ex }
  rw [expd, hE, expiryPass, expireGo_frame f fun s t => hf s (consumeHead.written s t), aggd_frame f fun s t => hf s (aggd.written s t)]

def endBlock.written (s t : State) : State :=
  { s with queues := t.queues, tssActive := t.tssActive, signings := t.signings, attempts := t.attempts, partials := t.partials,
           expirations := t.expirations, pending := t.pending, bActive := t.bActive, bSince := t.bSince, mapping := t.mapping,
           escrow := t.escrow, bal := t.bal, assignedLog := t.assignedLog, penalised := t.penalised,
           completedLog := t.completedLog, failedLog := t.failedLog }

theorem endBlock_frame {α : Sort _} (f : State → α) (hf : ∀ s t, f (endBlock.written s t) = f s)
    (s : State) (committee : Nat → List Nat) (height nowNs : Int) : f (endBlock s committee height nowNs) = f s := by
  rw [endBlock_eq, retryAll_frame f fun s t => hf s (retryOne.written s t), expd_frame f fun s t => hf s (expd.written s t)]

def logTokens (s : State) : List Nat := s.assignedLog.map (·.2.2.2)

/-- queue / log discipline: all tokens ever handed out are pairwise distinct -/
structure QInv (q : Nat → List Nat) (L : List Nat) (next : Nat) : Prop where
  q_nodup : ∀ m, (q m).Nodup
  q_lt : ∀ m, ∀ t ∈ q m, t < next
  q_disj : ∀ m m', m ≠ m' → ∀ t ∈ q m, t ∉ q m'
  q_log : ∀ m, ∀ t ∈ q m, t ∉ L
  log_nodup : L.Nodup
  log_lt : ∀ t ∈ L, t < next

def TokInv (s : State) : Prop := QInv s.queues (logTokens s) s.nextToken

theorem QInv.shrink {q q' : Nat → List Nat} {L : List Nat} {next : Nat} (h : QInv q L next) (hs : ∀ m, (q' m).Sublist (q m)) :
    QInv q' L next :=
  ⟨fun m => (hs m).nodup (h.q_nodup m), fun m t ht => h.q_lt m t ((hs m).subset ht),
   fun m m' hne t ht ht' => h.q_disj m m' hne t ((hs m).subset ht) ((hs m').subset ht'),
   fun m t ht => h.q_log m t ((hs m).subset ht), h.log_nodup, h.log_lt⟩

theorem QInv.log {q : Nat → List Nat} {L : List Nat} {next t : Nat} (h : QInv q L next) (hq : ∀ m, t ∉ q m) (hL : t ∉ L) (ht : t < next) :
    QInv q (L ++ [t]) next := by
  refine ⟨h.q_nodup, h.q_lt, h.q_disj, fun m u hu hm => ?_, ?_, fun u hu => ?_⟩
  · rcases List.mem_append.mp hm with hl | hl
    · exact h.q_log m u hu hl
    · exact hq m (List.mem_singleton.mp hl ▸ hu)
  · exact nodup_concat h.log_nodup hL
  · rcases List.mem_append.mp hu with hl | hl
    · exact h.log_lt u hl
    · exact List.mem_singleton.mp hl ▸ ht

/-- tokens from `next` on are new: a duplicate-free list of them may join one queue -/
theorem QInv.mint {q : Nat → List Nat} {L : List Nat} {next next' : Nat} (h : QInv q L next) (m : Nat) {new : List Nat} (hn : new.Nodup)
    (hle : next ≤ next') (hr : ∀ t ∈ new, next ≤ t ∧ t < next') : QInv (fun x => if x = m then q m ++ new else q x) L next' := by
  -- a token of the new queues is an old one, below `next`, or a new one of `m`, from `next` on
  have old : ∀ {z t}, t ∈ (if z = m then q m ++ new else q z) → (t ∈ q z ∧ t < next) ∨ (z = m ∧ next ≤ t ∧ t < next') := by
    intro z t hz
    split at hz
    · rename_i e; subst e
      exact (List.mem_append.mp hz).imp (fun h1 => ⟨h1, h.q_lt z t h1⟩) fun h1 => ⟨rfl, hr t h1⟩
    · exact .inl ⟨hz, h.q_lt z t hz⟩
  refine ⟨fun x => ?_, fun x t ht => ?_, fun x y hxy t ht hy => ?_, fun x t ht hl => ?_, h.log_nodup, fun t ht => Nat.lt_of_lt_of_le (h.log_lt t ht) hle⟩
  · split
    · refine List.nodup_append.mpr ⟨h.q_nodup m, hn, fun a ha b hb => ?_⟩
      have := h.q_lt m a ha; have := (hr b hb).1; omega
    · exact h.q_nodup x
  · rcases old ht with ⟨-, a⟩ | ⟨-, -, a⟩ <;> omega
  · rcases old ht with ⟨a, a'⟩ | ⟨a1, a2, -⟩ <;> rcases old hy with ⟨b, b'⟩ | ⟨b1, b2, -⟩
    · exact h.q_disj x y hxy t a b
    · omega
    · omega
    · exact hxy (a1.trans b1.symm)
  · rcases old ht with ⟨a, -⟩ | ⟨-, a, -⟩
    · exact h.q_log x t a hl
    · have := h.log_lt t hl; omega

theorem dequeueAll_inv (committee : List Nat) (q : Nat → List Nat) (L : List Nat) (next : Nat) (h : QInv q L next) :
    QInv (dequeueAll q committee).2 (L ++ (dequeueAll q committee).1.map (·.2)) next := by
  fun_induction dequeueAll q committee generalizing L with
  | case1 => rw [List.map_nil, List.append_nil]; exact h
  | case2 _ _ _ _ ih => exact ih L h
  | case3 q m _ t ts hq _ _ e ih =>
    have hm : t ∈ q m := hq ▸ List.mem_cons_self ..
    have hnd := h.q_nodup m; rw [hq] at hnd
    -- the head of `m`'s queue leaves it, and it was in no other queue
    have h1 : QInv (fun x => if x = m then ts else q x) (L ++ [t]) next := by
      refine (h.shrink (sublist_update (hq ▸ List.sublist_cons_self ..))).log (fun x hx => ?_) (h.q_log m t hm) (h.q_lt m t hm)
      split at hx
      · exact (List.nodup_cons.mp hnd).1 hx
      · exact h.q_disj m x (Ne.symm ‹_›) t hm hx
    have := ih _ h1
    rw [e] at this
    rwa [List.append_assoc] at this

theorem enqueue_tokInv (s : State) (m k : Nat) (h : TokInv s) : TokInv (enqueue s m k).1 := by
  rcases enqueue_cases s m k with ⟨-, e⟩ | ⟨-, e⟩ <;> rw [e]
  · exact h
  · refine QInv.mint h m (List.Pairwise.map _ (fun a b hab => by omega) (List.nodup_range (n := k))) (Nat.le_add_right ..) fun t ht => ?_
    obtain ⟨i, hi, rfl⟩ := List.mem_map.mp ht
    have := List.mem_range.mp hi
    show s.nextToken ≤ i + s.nextToken ∧ i + s.nextToken < s.nextToken + k; omega

theorem resetDE_tokInv (s : State) (m : Nat) (h : TokInv s) : TokInv (resetDE s m) :=
  QInv.shrink h (sublist_update (List.nil_sublist _))

/-- what `TokInv` reads -/
def tview (s : State) := (s.queues, s.assignedLog, s.nextToken)

theorem tokInv_of_view {s s' : State} (h : TokInv s) (e : tview s' = tview s) : TokInv s' := by
  show QInv (tview s').1 ((tview s').2.1.map (·.2.2.2)) (tview s').2.2
  rw [e]; exact h

theorem initiated_tokInv (s : State) (sid att : Nat) (c : List Nat) (height : Int) (h : TokInv s) : TokInv (initiated s sid att c height) := by
  have := dequeueAll_inv c s.queues _ s.nextToken h
  unfold TokInv logTokens initiated
  rwa [List.map_append, List.map_map]

theorem retryOne_tokInv (s : State) (sid : Nat) (committee : List Nat) (height : Int) (h : TokInv s) :
    TokInv (retryOne s sid committee height) := by
  rcases retryOne_cases s sid committee height with ⟨sg, -, -, -, -, e⟩ | ⟨sg, -, -, e⟩ | ⟨-, e⟩ <;> rw [e]
  · exact initiated_tokInv s sid _ committee height h
  · exact tokInv_of_view h rfl
  · exact h

theorem endBlock_tokInv (s : State) (committee : Nat → List Nat) (height nowNs : Int) (h : TokInv s) :
    TokInv (endBlock s committee height nowNs) := by
  have hB : TokInv (expd s height nowNs) := tokInv_of_view h (expd_frame tview (fun _ _ => rfl) ..)
  exact retryAll_inv TokInv committee height (fun s' sid h => retryOne_tokInv s' sid _ height h) _ _ hB

theorem request_tokInv (s : State) (sender : Nat) (auth : Bool) (limit : Coins) (committee : List Nat) (height : Int)
    (h : TokInv s) : TokInv (request s sender auth limit committee height).1 := by
  rcases request_cases s sender auth limit committee height with ⟨e, -, he⟩ | ⟨b, e, -, -, -, -, he⟩ <;> rw [he]
  · exact h
  · exact tokInv_of_view (initiated_tokInv _ _ 1 committee height (tokInv_of_view (s' := fresh { s with bal := b, escrow := e }) h rfl)) rfl

end BandVerif.Signing
