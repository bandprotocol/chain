import BandVerif.Model.Tick

namespace BandVerif.Tick

theorem approxOK_upto : (List.range 1000).all (fun i => approxOK (i + 1)) = true := by decide +kernel

end BandVerif.Tick
