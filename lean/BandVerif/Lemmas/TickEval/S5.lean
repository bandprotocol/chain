import BandVerif.Lemmas.TickEval

namespace BandVerif.Tick

theorem subtree_10 : subtree 10 = true := by decide +kernel
theorem subtree_11 : subtree 11 = true := by decide +kernel

end BandVerif.Tick
