import BandVerif.Lemmas.TickEval

namespace BandVerif.Tick

theorem subtree_0 : subtree 0 = true := by decide +kernel
theorem subtree_1 : subtree 1 = true := by decide +kernel

end BandVerif.Tick
