import BandVerif.Lemmas.TickEval

namespace BandVerif.Tick

theorem subtree_8 : subtree 8 = true := by decide +kernel
theorem subtree_9 : subtree 9 = true := by decide +kernel

end BandVerif.Tick
