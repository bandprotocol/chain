import BandVerif.Lemmas.TickEval

namespace BandVerif.Tick

theorem subtree_12 : subtree 12 = true := by decide +kernel
theorem subtree_13 : subtree 13 = true := by decide +kernel

end BandVerif.Tick
