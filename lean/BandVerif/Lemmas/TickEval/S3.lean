import BandVerif.Lemmas.TickEval

namespace BandVerif.Tick

theorem subtree_6 : subtree 6 = true := by decide +kernel
theorem subtree_7 : subtree 7 = true := by decide +kernel

end BandVerif.Tick
