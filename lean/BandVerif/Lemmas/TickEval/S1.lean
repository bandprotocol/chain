import BandVerif.Lemmas.TickEval

namespace BandVerif.Tick

theorem subtree_2 : subtree 2 = true := by decide +kernel
theorem subtree_3 : subtree 3 = true := by decide +kernel

end BandVerif.Tick
