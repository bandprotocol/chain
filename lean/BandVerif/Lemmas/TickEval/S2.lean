import BandVerif.Lemmas.TickEval

namespace BandVerif.Tick

theorem subtree_4 : subtree 4 = true := by decide +kernel
theorem subtree_5 : subtree 5 = true := by decide +kernel

end BandVerif.Tick
