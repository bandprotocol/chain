import BandVerif.Lemmas.TickEval

namespace BandVerif.Tick

theorem subtree_14 : subtree 14 = true := by decide +kernel
theorem subtree_15 : subtree 15 = true := by decide +kernel

end BandVerif.Tick
