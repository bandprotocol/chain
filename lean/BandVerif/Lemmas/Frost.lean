/-
C03 / C04 lemmas (Mathlib): the signing model of Model/Frost.lean and the DKG algebra of Model/Dkg.lean instantiated on a
module over a field (`modOps`), and Lagrange interpolation at 0.
-/
import BandVerif.Model.Dkg
import Mathlib.LinearAlgebra.Lagrange
import Mathlib.Tactic.LinearCombination

namespace BandVerif.Frost

variable {F V : Type} [Field F] [AddCommGroup V] [Module F V]

/-- the operations record of a vector space with base point g -/
def modOps (g : V) : Ops F V :=
  { sadd := (· + ·), smul := (· * ·), gadd := (· + ·), gneg := Neg.neg, act := (· • ·), base := g, zeroG := 0, szero := 0 }

theorem sumG_eq (g : V) (l : List V) : sumG (modOps (F := F) g) l = l.sum := List.sum_eq_foldl.symm

theorem sumS_eq (g : V) (l : List F) : sumS (modOps (V := V) g) l = l.sum := List.sum_eq_foldl.symm

theorem signPartial_modOps (g : V) (x k c lam : F) : signPartial (modOps g) x k c lam = (k • g, c * lam * x + k) := rfl

/-- the Schnorr relation of an honest response: for the key `x • P` and nonce `k`, the response `k + c * x` verifies … -/
theorem response_verifies (P : V) (k c x : F) : (k + c * x) • P - c • x • P = k • P := by
  rw [add_smul, mul_smul]; abel

/-- …and over a point with trivial annihilator no other response does -/
theorem response_sound {g : V} (hg : ∀ a : F, a • g = 0 → a = 0) {z c x k : F} (h : z • g - c • x • g = k • g) :
    z - c * x - k = 0 :=
  hg _ (by rw [sub_smul, sub_smul, mul_smul]; exact sub_eq_zero.mpr h)

end BandVerif.Frost

namespace BandVerif.Dkg
open BandVerif.Frost

variable {F V : Type} [Field F] [DecidableEq F] [AddCommGroup V] [Module F V] [DecidableEq V]

/-- Σ coeffs[k]·x^k by Horner (the dealer-side `ComputeSecretShare`) -/
def evalScalar (coeffs : List F) (x : F) : F := coeffs.foldr (fun c acc => c + x * acc) 0

theorem evalCommits_nil (g : V) (x : F) : evalCommits (modOps g) ([] : List V) x = 0 := rfl

omit [DecidableEq F] [DecidableEq V] in
/-- one Horner step -/
theorem evalCommits_cons (g c : V) (cs : List V) (x : F) :
    evalCommits (modOps g) (c :: cs) x = c + x • evalCommits (modOps g) cs x := rfl

theorem head_addCommits (g : V) (a c : V) (as cs : List V) :
    (addCommits (modOps (F := F) g) (a :: as) (c :: cs)).head? = some (c + a) := rfl

omit [DecidableEq F] in
/-- `schnorr.Verify` with an explicit generator: accepts iff s·gen − c·Q is the expected R and not the identity -/
theorem schnorrVerifyGen_iff (g gen R : V) (s c : F) (Q : V) :
    schnorrVerifyGen (modOps g) gen R s c Q = true ↔ s • gen - c • Q = R ∧ R ≠ 0 := by
  unfold schnorrVerifyGen modOps
  simp only [Bool.and_eq_true, decide_eq_true_eq, ← sub_eq_add_neg]
  constructor
  · rintro ⟨h1, h2⟩; exact ⟨h2, h2 ▸ h1⟩
  · rintro ⟨h1, h2⟩; exact ⟨h1 ▸ h2, h1⟩

omit [DecidableEq F] in
/-- `VerifyComplaintSignature`: the two Schnorr relations, under the base point and under the dealer's key -/
theorem complaintSigOk_iff (g a1 a2 : V) (z c : F) (pubI pubJ keySym : V) :
    complaintSigOk (modOps g) a1 a2 z c pubI pubJ keySym = true ↔
      (z • g - c • pubI = a1 ∧ a1 ≠ 0) ∧ (z • pubJ - c • keySym = a2 ∧ a2 ≠ 0) := by
  rw [complaintSigOk, Bool.and_eq_true, schnorrVerifyGen_iff, schnorrVerifyGen_iff]; rfl

end BandVerif.Dkg

namespace BandVerif.Frost

open Polynomial Finset

variable {F V : Type} [Field F] [DecidableEq F] [AddCommGroup V] [Module F V] [DecidableEq V]

omit [DecidableEq F] in
/-- `schnorr.Verify` is `Dkg.schnorrVerifyGen` at the base point, by unfolding -/
theorem schnorrVerify_iff (g : V) (R : V) (s c : F) (Q : V) :
    schnorrVerify (modOps g) R s c Q = true ↔ s • g - c • Q = R ∧ R ≠ 0 := Dkg.schnorrVerifyGen_iff g g R s c Q

/-- the Lagrange coefficient at 0 of node i within the node set s -/
noncomputable def lagrangeAtZero (s : Finset F) (i : F) : F := ∏ j ∈ s.erase i, j / (j - i)

theorem eval_basis_zero (s : Finset F) (i : F) : (Lagrange.basis s id i).eval 0 = lagrangeAtZero s i := by
  unfold Lagrange.basis lagrangeAtZero Lagrange.basisDivisor
  rw [eval_prod]
  apply Finset.prod_congr rfl
  intro j _
  simp only [id, eval_mul, eval_C, eval_sub, eval_X]
  rw [div_eq_mul_inv, zero_sub, ← neg_sub j i, inv_neg, neg_mul_neg, mul_comm]

/-- Lagrange interpolation at 0: any node set larger than the degree reconstructs f(0) -/
theorem lagrange_interpolates (f : F[X]) (s : Finset F) (hdeg : f.degree < s.card) :
    ∑ i ∈ s, lagrangeAtZero s i * f.eval i = f.eval 0 := by
  have h := Lagrange.eq_interpolate (s := s) (v := id) (f := f) (Set.injOn_id _) hdeg
  conv_rhs => rw [h]
  simp only [Lagrange.interpolate_apply, eval_finsetSum, eval_mul, eval_C, id]
  apply Finset.sum_congr rfl; intro i _; rw [eval_basis_zero, mul_comm]

end BandVerif.Frost
