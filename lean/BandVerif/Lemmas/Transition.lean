/- Lemmas for C18 over Model/Transition.lean: the two messages, the five tss callbacks (the table `Callback`) and the
   bandtss end-blocker, each analysed once. -/
import BandVerif.Model.Transition
import BandVerif.Common.Guarded

namespace BandVerif.Transition

theorem execTimeOk_iff (s : State) (now et : Int) : execTimeOk s now et = true ↔ now + s.minDur ≤ et ∧ et ≤ now + s.maxDur := by
  simp [execTimeOk]

/-- `AddMembers` fails exactly when a member of the group is registered for it already; otherwise it appends the group -/
theorem addMembers_eq_some {s s1 : State} {g : Nat} :
    addMembers s g = some s1 ↔ (∀ a ∈ s.groupMembers g, (a, g) ∉ s.bmembers) ∧
      s1 = { s with bmembers := s.bmembers ++ (s.groupMembers g).map (fun a => (a, g)) } := by
  unfold addMembers
  split
  · rename_i h
    obtain ⟨a, ha, hm⟩ := List.any_eq_true.mp h
    exact ⟨nofun, fun h' => absurd (by simpa using hm) (h'.1 a ha)⟩
  · rename_i h
    refine ⟨fun e => ⟨fun a ha hm => h (List.any_eq_true.mpr ⟨a, ha, by simpa using hm⟩), (Option.some.inj e).symm⟩, fun e => e.2 ▸ rfl⟩

theorem propose_cases (s : State) (auth : Bool) (now et : Int) (created : Option (Nat × List Nat)) :
    Guarded .ok s (propose s auth now et created) fun s' =>
      auth = true ∧ now + s.minDur ≤ et ∧ et ≤ now + s.maxDur ∧ s.transition = none ∧ ∃ gid ms, created = some (gid, ms) ∧
        s' = { s with groupMembers := fun g => if g = gid then ms else s.groupMembers g,
                      transition := some ⟨stCreating, et, 0, gid, s.currentGroup, false⟩ } := by
  unfold propose
  refine .ite nofun fun h1 => .ite nofun fun h2 => .ite nofun fun h3 => ?_
  split
  · exact .reject nofun
  · have hw := (execTimeOk_iff ..).mp (by simpa using h2)
    exact .accept ⟨by simpa using h1, hw.1, hw.2, by simpa using h3, _, _, rfl, rfl⟩

theorem force_cases (s : State) (auth : Bool) (now et : Int) (gid : Nat) (ex : Bool) :
    Guarded .ok s (force s auth now et gid ex) fun s' =>
      auth = true ∧ now + s.minDur ≤ et ∧ et ≤ now + s.maxDur ∧ s.transition = none ∧ gid ≠ s.currentGroup ∧
        s.groupActive gid = true ∧
        s' = { s with bmembers := s.bmembers ++ (s.groupMembers gid).map (fun a => (a, gid)),
                      transition := some ⟨stWaitingExec, et, 0, gid, s.currentGroup, true⟩ } := by
  unfold force
  refine .ite nofun fun h1 => .ite nofun fun h2 => .ite nofun fun h3 => .ite nofun fun h4 => .ite nofun fun _ => .ite nofun fun h6 => ?_
  split
  · exact .reject nofun
  · rename_i s1 ha
    obtain rfl := (addMembers_eq_some.mp ha).2
    have hw := (execTimeOk_iff ..).mp (by simpa using h2)
    exact .accept ⟨by simpa using h1, hw.1, hw.2, by simpa using h3, Ne.symm h4, by simpa using h6, rfl⟩

/-- The transition table of the five tss callbacks, read off `onEvent` once (`none` = `AddMembers` failed: a Go panic).
    The group-active flags `ga` are the only other field a callback writes; the table does not say which (`TInv` and the
    theorems of C18 about callbacks do not read them; `force` does). -/
inductive Callback (s : State) (now : Int) (e : Event) : Option State → Prop
  /-- no transition, or the event is not about it, or key generation finished after the execution time -/
  | ignored (ga) : Callback s now e (some { s with groupActive := ga })
  /-- key generation or the hand-over signing failed (or the signing could not be requested): the transition is dropped -/
  | dropped (ga) (t : Tr) (ht : s.transition = some t) (hs : t.status = stCreating ∨ t.status = stWaitingSign) :
      Callback s now e (some { s with groupActive := ga, transition := none })
  /-- key generation finished and there is a current group: its hand-over signature is awaited -/
  | signing (ga) (t : Tr) (sid : Nat) (ht : s.transition = some t) (hs : t.status = stCreating) :
      Callback s now e (some { s with groupActive := ga, transition := some { t with status := stWaitingSign, signingID := sid } })
  /-- key generation finished for the first group, or the hand-over is signed: `AddMembers` registers the incoming group,
      then WAITING_EXECUTION -/
  | ready (ga) (t : Tr) (ht : s.transition = some t)
      (why : (∃ signOk sid, e = .creationCompleted t.incoming signOk sid ∧ t.status = stCreating ∧ t.current = 0 ∧ now ≤ t.execTime) ∨
             (e = .signingCompleted t.signingID ∧ t.status = stWaitingSign)) :
      Callback s now e (some { s with groupActive := ga, transition := some { t with status := stWaitingExec },
                                      bmembers := s.bmembers ++ (s.groupMembers t.incoming).map (fun a => (a, t.incoming)) })
  /-- the same two events when a member of the incoming group is registered for it already: `AddMembers` fails, the Go
      code panics -/
  | panic (t : Tr) (ht : s.transition = some t) (hs : t.status = stCreating ∨ t.status = stWaitingSign)
      (taken : ¬∀ a ∈ s.groupMembers t.incoming, (a, t.incoming) ∉ s.bmembers) : Callback s now e none

theorem onEvent_callback (s : State) (now : Int) (e : Event) : Callback s now e (onEvent s now e) := by
  cases e with
  | creationCompleted gid signOk sid =>
    simp only [onEvent]
    split
    · exact .ignored _
    rename_i t ht
    split
    · exact .ignored _
    rename_i hc
    simp only [not_or, Decidable.not_not, Int.not_lt] at hc
    obtain ⟨rfl, hs, hd⟩ := hc
    split
    · rename_i h0
      split
      · rename_i ha; exact .panic t ht (.inl hs) fun hf => nomatch ha.symm.trans (addMembers_eq_some.mpr ⟨hf, rfl⟩)
      · rename_i s1 ha
        obtain ⟨-, rfl⟩ := addMembers_eq_some.mp ha
        exact .ready _ t ht (.inl ⟨signOk, sid, rfl, hs, h0, hd⟩)
    split
    · exact .signing _ t sid ht hs
    · exact .dropped _ t ht (.inl hs)
  | creationFailed gid | creationExpired gid =>
    simp only [onEvent]
    split
    · rename_i t ht
      split
      · rename_i hc; exact .dropped _ t ht (.inl hc.2)
      · exact .ignored _
    · exact .ignored _
  | signingCompleted sid =>
    simp only [onEvent]
    split
    · rename_i t ht
      split
      · rename_i hc
        split
        · rename_i ha; exact .panic t ht (.inr hc.2) fun hf => nomatch ha.symm.trans (addMembers_eq_some.mpr ⟨hf, rfl⟩)
        · rename_i s1 ha
          obtain ⟨-, rfl⟩ := addMembers_eq_some.mp ha
          exact .ready s.groupActive t ht (.inr ⟨by rw [hc.1], hc.2⟩)
      · exact .ignored _
    · exact .ignored _
  | signingFailed sid =>
    simp only [onEvent]
    split
    · rename_i t ht
      split
      · rename_i hc; exact .dropped _ t ht (.inr hc.2)
      · exact .ignored _
    · exact .ignored _

theorem not_waitingExec {t : Tr} (hs : t.status = stCreating ∨ t.status = stWaitingSign) : t.status ≠ stWaitingExec := by
  rcases hs with hs | hs <;> rw [hs] <;> decide

theorem endBlock_cases (s : State) (now : Int) :
    (endBlock s now = s ∧ ∀ t, s.transition = some t → now < t.execTime) ∨
    ∃ t, s.transition = some t ∧ t.execTime ≤ now ∧
      ((t.status ≠ stWaitingExec ∧ endBlock s now = { s with transition := none }) ∨
       (t.status = stWaitingExec ∧ endBlock s now =
          { (if t.current ≠ 0 then deleteMembers s t.current else s) with currentGroup := t.incoming, transition := none })) := by
  unfold endBlock
  cases ht : s.transition with
  | none => exact .inl ⟨rfl, nofun⟩
  | some t =>
    dsimp only
    split
    · rename_i h; exact .inl ⟨rfl, fun _ e => Option.some.inj e ▸ h⟩
    refine .inr ⟨t, rfl, by omega, ?_⟩
    split
    · rename_i hs; exact .inl ⟨hs, rfl⟩
    · rename_i hs; exact .inr ⟨by simpa using hs, rfl⟩

end BandVerif.Transition
