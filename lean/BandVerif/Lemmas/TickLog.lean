/- C11: the logarithm approximation of PriceToTick is monotone in the price (most significant bit, normalised mantissa, the
   sixteen squaring steps, each monotone), so that for "within one tick of the truth for EVERY uint64 price" it is enough to
   look at it where the true tick changes (`TickEval.lean`, `TickSweep.lean`). -/
import BandVerif.Model.Tick

namespace BandVerif.Tick

/-- the table of `msbOf` for words of `2 ^ k` bits: compare with `2 ^ 2 ^ (k-1) − 1`, shift by `2 ^ (k-1)`, halve -/
def halvings : Nat → List (Nat × Nat)
  | 0 => []
  | k + 1 => (2 ^ 2 ^ k - 1, 2 ^ k) :: halvings k

/-- binary search for the most significant bit: on a word of `2 ^ k` bits the search adds the position `j` of the leading one -/
theorem msbGo_halvings (k p m : Nat) (h1 : 1 ≤ p) (h2 : p < 2 ^ 2 ^ k) :
    ∃ j, j < 2 ^ k ∧ msbGo (halvings k) p m = m + j ∧ p >>> j = 1 := by
  induction k generalizing p m with
  | zero => exact ⟨0, by decide, rfl, by simp at h2; omega⟩
  | succ k ih =>
    have hpos : 0 < 2 ^ 2 ^ k := Nat.pow_pos (by decide)
    rw [halvings, msbGo]
    split
    · have hlt : p >>> 2 ^ k < 2 ^ 2 ^ k := by
        rw [Nat.shiftRight_eq_div_pow]
        exact (Nat.div_lt_iff_lt_mul hpos).mpr (by rw [← Nat.pow_add, ← Nat.two_mul, ← Nat.pow_succ']; exact h2)
      have hge : 1 ≤ p >>> 2 ^ k := by
        rw [Nat.shiftRight_eq_div_pow]; exact (Nat.le_div_iff_mul_le hpos).mpr (by omega)
      obtain ⟨j, hj, e, hs⟩ := ih (p >>> 2 ^ k) (m + 2 ^ k) hge hlt
      exact ⟨2 ^ k + j, by rw [Nat.pow_succ]; omega, by rw [e]; omega, by rw [Nat.shiftRight_add]; exact hs⟩
    · obtain ⟨j, hj, e, hs⟩ := ih p m h1 (by omega)
      exact ⟨j, by rw [Nat.pow_succ]; omega, e, hs⟩

theorem msbOf_spec (p : Nat) (h1 : 1 ≤ p) (h2 : p < 2 ^ 64) : msbOf p < 64 ∧ 2 ^ msbOf p ≤ p ∧ p < 2 ^ (msbOf p + 1) := by
  obtain ⟨j, hj, e, hs⟩ := msbGo_halvings 6 p 0 h1 h2
  rw [show msbOf p = msbGo (halvings 6) p 0 from rfl, e, Nat.zero_add]
  rw [Nat.shiftRight_eq_div_pow] at hs
  have hp : 0 < 2 ^ j := Nat.pow_pos (by decide)
  refine ⟨hj, ?_, ?_⟩
  · have := (Nat.le_div_iff_mul_le hp).mp (Nat.le_of_eq hs.symm); omega
  · have := (Nat.div_lt_iff_lt_mul hp).mp (show p / 2 ^ j < 2 by omega)
    omega

theorem msbOf_mono (p q : Nat) (hp : 1 ≤ p) (hpq : p ≤ q) (hq : q < 2 ^ 64) : msbOf p ≤ msbOf q := by
  obtain ⟨_, a1, _⟩ := msbOf_spec p hp (by omega)
  obtain ⟨_, _, b2⟩ := msbOf_spec q (by omega) hq
  by_cases c : msbOf p ≤ msbOf q
  · exact c
  · exfalso
    have : 2 ^ (msbOf q + 1) ≤ 2 ^ msbOf p := Nat.pow_le_pow_right (by decide) (by omega)
    omega

def InR (r : Nat) : Prop := 2 ^ 31 ≤ r ∧ r < 2 ^ 32

def mant (price : Nat) : Nat :=
  let msb := msbOf price
  if msb ≥ 32 then price >>> (msb - 31) else (price <<< (31 - msb)) % two64

/-- both shift directions of `PriceToTick` are `⌊p · 2³¹ / 2^msb⌋`; the left shift does not leave 64 bits -/
theorem mant_eq (p : Nat) (h1 : 1 ≤ p) (h2 : p < 2 ^ 64) : mant p = p * 2 ^ 31 / 2 ^ msbOf p := by
  obtain ⟨_, _, b⟩ := msbOf_spec p h1 h2
  unfold mant
  simp only []
  split
  · rw [Nat.shiftRight_eq_div_pow, show msbOf p = 31 + (msbOf p - 31) by omega, Nat.pow_add, ← Nat.div_div_eq_div_mul,
      Nat.mul_div_cancel _ (Nat.pow_pos (by decide)), ← show msbOf p = 31 + (msbOf p - 31) by omega]
  · have e : p * 2 ^ 31 = p * 2 ^ (31 - msbOf p) * 2 ^ msbOf p := by rw [Nat.mul_assoc, ← Nat.pow_add]; congr 2; omega
    rw [e, Nat.mul_div_cancel _ (Nat.pow_pos (by decide)), Nat.shiftLeft_eq]
    apply Nat.mod_eq_of_lt
    have := Nat.mul_lt_mul_of_pos_right b (Nat.pow_pos (by decide) : 0 < 2 ^ (31 - msbOf p))
    rw [← Nat.pow_add, show msbOf p + 1 + (31 - msbOf p) = 32 by omega] at this
    unfold two64; omega

theorem mant_inR (p : Nat) (h1 : 1 ≤ p) (h2 : p < 2 ^ 64) : InR (mant p) := by
  obtain ⟨_, a, b⟩ := msbOf_spec p h1 h2
  have hpos : 0 < 2 ^ msbOf p := Nat.pow_pos (by decide)
  rw [mant_eq p h1 h2]
  exact ⟨(Nat.le_div_iff_mul_le hpos).mpr (by rw [Nat.mul_comm]; exact Nat.mul_le_mul_right _ a),
    (Nat.div_lt_iff_lt_mul hpos).mpr (by
      rw [show 2 ^ 32 * 2 ^ msbOf p = 2 ^ (msbOf p + 1) * 2 ^ 31 by rw [Nat.pow_succ]; omega]
      exact Nat.mul_lt_mul_of_pos_right b (by decide))⟩

theorem mant_mono (p q : Nat) (hp : 1 ≤ p) (hpq : p ≤ q) (hq : q < 2 ^ 64) (hm : msbOf p = msbOf q) : mant p ≤ mant q := by
  rw [mant_eq p hp (by omega), mant_eq q (by omega) hq, hm]
  exact Nat.div_le_div_right (Nat.mul_le_mul_right _ hpq)

/-- one iteration: the bit produced and the next mantissa -/
def logStep (r : Nat) : Nat × Nat :=
  let r1 := ((r * r) % two64) >>> 31
  let f := r1 >>> 32
  (f, r1 >>> f)

/-- the bits of `logGo` as a sum, most significant first (`k` bits left) -/
def logAdd : Nat → Nat → Nat
  | 0, _ => 0
  | k + 1, r => (logStep r).1 * 2 ^ k + logAdd k (logStep r).2

/-- on a normalised mantissa the square fits 64 bits: the bit is its top bit, the next mantissa its top 32 bits -/
theorem logStep_eq (r : Nat) (h : InR r) :
    logStep r = (r * r / 2 ^ 63, r * r / 2 ^ 31 / 2 ^ (r * r / 2 ^ 63)) ∧ 2 ^ 62 ≤ r * r ∧ r * r < 2 ^ 64 := by
  have l : 2 ^ 31 * 2 ^ 31 ≤ r * r := Nat.mul_le_mul h.1 h.1
  have u : r * r < 2 ^ 32 * 2 ^ 32 := Nat.mul_lt_mul'' h.2 h.2
  refine ⟨?_, l, u⟩
  simp only [logStep, Nat.shiftRight_eq_div_pow, Nat.mod_eq_of_lt (show r * r < two64 from u), Nat.div_div_eq_div_mul _ (2 ^ 31) (2 ^ 32)]

theorem logStep_facts (r : Nat) (h : InR r) : (logStep r).1 ≤ 1 ∧ InR (logStep r).2 := by
  obtain ⟨e, l, u⟩ := logStep_eq r h
  rw [e]
  generalize r * r = x at l u
  have hf : x / 2 ^ 63 = 0 ∨ x / 2 ^ 63 = 1 := by omega
  refine ⟨by omega, ?_⟩
  show 2 ^ 31 ≤ x / 2 ^ 31 / 2 ^ (x / 2 ^ 63) ∧ x / 2 ^ 31 / 2 ^ (x / 2 ^ 63) < 2 ^ 32
  rcases hf with hf | hf <;> rw [hf] <;> omega

theorem logStep_mono (r s : Nat) (hr : InR r) (hs : InR s) (h : r ≤ s) :
    (logStep r).1 < (logStep s).1 ∨ ((logStep r).1 = (logStep s).1 ∧ (logStep r).2 ≤ (logStep s).2) := by
  have m : r * r ≤ s * s := Nat.mul_le_mul h h
  rw [(logStep_eq r hr).1, (logStep_eq s hs).1]
  rcases Nat.lt_or_eq_of_le (Nat.div_le_div_right (c := 2 ^ 63) m) with c | c
  · exact .inl c
  · exact .inr ⟨c, c ▸ Nat.div_le_div_right (Nat.div_le_div_right m)⟩

theorem logAdd_lt (k r : Nat) (h : InR r) : logAdd k r < 2 ^ k := by
  induction k generalizing r with
  | zero => simp [logAdd]
  | succ k ih =>
    obtain ⟨f, hn⟩ := logStep_facts r h
    have := ih _ hn
    have := Nat.mul_le_mul_right (2 ^ k) f
    simp only [logAdd]
    omega

theorem logAdd_mono (k r s : Nat) (hr : InR r) (hs : InR s) (h : r ≤ s) : logAdd k r ≤ logAdd k s := by
  induction k generalizing r s with
  | zero => simp [logAdd]
  | succ k ih =>
    have hn := (logStep_facts r hr).2
    simp only [logAdd]
    rcases logStep_mono r s hr hs h with c | ⟨c1, c2⟩
    · -- a smaller bit outweighs whatever the later bits add
      have l := logAdd_lt k _ hn
      have := Nat.mul_le_mul_right (2 ^ k) c
      rw [Nat.succ_mul] at this
      omega
    · have := ih _ _ hn (logStep_facts s hs).2 c2
      rw [c1]; omega

/-- `logGo` ORs bit `15 − i` into a value whose low `16 − i` bits are still zero, so the OR is a sum -/
theorem logGo_eq (k : Nat) : ∀ (i r c : Nat), i + k = 16 → InR r → logGo k i r (2 ^ k * c) = 2 ^ k * c + logAdd k r := by
  induction k with
  | zero => intro i r c _ _; simp [logGo, logAdd]
  | succ k ih =>
    intro i r c hik hr
    obtain ⟨f, hn⟩ := logStep_facts r hr
    have hsh : 15 - i = k := by omega
    have e : logGo (k + 1) i r (2 ^ (k + 1) * c) = logGo k (i + 1) (logStep r).2 (2 ^ (k + 1) * c ||| ((logStep r).1 <<< (15 - i))) := rfl
    rw [e, hsh, Nat.shiftLeft_eq]
    have hlt : (logStep r).1 * 2 ^ k < 2 ^ (k + 1) := by
      have := Nat.mul_le_mul_right (2 ^ k) f
      have : 0 < 2 ^ k := Nat.pow_pos (by decide)
      omega
    rw [← Nat.two_pow_add_eq_or_of_lt hlt]
    have e2 : 2 ^ (k + 1) * c + (logStep r).1 * 2 ^ k = 2 ^ k * (2 * c + (logStep r).1) := by
      rw [Nat.pow_succ, Nat.mul_add, Nat.mul_comm (logStep r).1, Nat.mul_assoc]
    rw [e2, ih (i + 1) _ _ (by omega) hn, ← e2]
    simp only [logAdd]; omega

/-- the 16.16 fixed-point logarithm computed by PriceToTick -/
def log2Of (price : Nat) : Nat := logGo 16 0 (mant price) (msbOf price <<< 16)

theorem log2Of_eq (p : Nat) (h1 : 1 ≤ p) (h2 : p < 2 ^ 64) : log2Of p = 2 ^ 16 * msbOf p + logAdd 16 (mant p) := by
  unfold log2Of
  rw [Nat.shiftLeft_eq, Nat.mul_comm]
  exact logGo_eq 16 0 _ _ rfl (mant_inR p h1 h2)

theorem log2Of_mono (p q : Nat) (hp : 1 ≤ p) (hpq : p ≤ q) (hq : q < 2 ^ 64) : log2Of p ≤ log2Of q := by
  rw [log2Of_eq p hp (by omega), log2Of_eq q (by omega) hq]
  have hm := msbOf_mono p q hp hpq hq
  by_cases e : msbOf p = msbOf q
  · have := logAdd_mono 16 _ _ (mant_inR p hp (by omega)) (mant_inR q (by omega) hq) (mant_mono p q hp hpq hq e)
    rw [e]; omega
  · have := logAdd_lt 16 _ (mant_inR p hp (by omega))
    omega

theorem approxTick_eq (p : Nat) : approxTick p = (((log2Of p : Nat) : Int) - 1959352) * 454283648 / 4294967296 := by
  unfold approxTick log2Of mant
  simp only [Int.shiftRight_eq_div_pow]
  rfl

theorem approxTick_mono (p q : Nat) (hp : 1 ≤ p) (hpq : p ≤ q) (hq : q < 2 ^ 64) : approxTick p ≤ approxTick q := by
  rw [approxTick_eq, approxTick_eq]
  have := log2Of_mono p q hp hpq hq
  omega

end BandVerif.Tick
