/- Lemmas for C08: LatestPrices.UpdatePrices touches exactly the signals it is given; a send, MsgTriggerTunnel and one
   tunnel of the end-blocker, each analysed once; the end-blocker as a fold. -/
import BandVerif.Model.Tunnel
import BandVerif.Common.Guarded

namespace BandVerif.Tunnel

/-- one step of UpdatePrices: replace the entries of the signal, or append -/
def upsert (l : List Price) (p : Price) : List Price :=
  if l.any (·.sid == p.sid) then l.map fun q => if q.sid == p.sid then p else q else l ++ [p]

theorem updatePrices_cons (l : List Price) (p : Price) (rest : List Price) :
    updatePrices l (p :: rest) = updatePrices (upsert l p) rest := by
  unfold upsert; simp only [updatePrices]; split <;> rfl

theorem mem_upsert (l : List Price) (p q : Price) : q ∈ upsert l p ↔ (q ∈ l ∧ q.sid ≠ p.sid) ∨ q = p := by
  unfold upsert
  split
  · rename_i hany
    obtain ⟨x, hx, hxs⟩ := List.any_eq_true.mp hany
    simp only [List.mem_map]
    constructor
    · rintro ⟨y, hy, rfl⟩
      split
      · exact .inr rfl
      · rename_i c; exact .inl ⟨hy, by simpa using c⟩
    · rintro (⟨hq, hne⟩ | rfl)
      · exact ⟨q, hq, if_neg (by simpa using hne)⟩
      · exact ⟨x, hx, if_pos hxs⟩
  · rename_i hany
    simp only [List.mem_append, List.mem_singleton]
    refine or_congr_left ⟨fun h => ⟨h, fun e => hany (List.any_eq_true.mpr ⟨q, h, by simpa using e⟩)⟩, And.left⟩

theorem updatePrices_untouched (l rest : List Price) (q : Price) (h : q.sid ∉ rest.map (·.sid)) :
    q ∈ updatePrices l rest ↔ q ∈ l := by
  induction rest generalizing l with
  | nil => rfl
  | cons r rs ih =>
    rw [List.map_cons, List.mem_cons, not_or] at h
    rw [updatePrices_cons, ih _ h.2, mem_upsert]
    exact ⟨fun hq => hq.elim And.left fun e => absurd (e ▸ rfl) h.1, fun hq => .inl ⟨hq, h.1⟩⟩

/-- a send goes through only when the route accepts, and writes the tunnel, its fee payer and the base-fee total -/
theorem sendWith_some {s s' : State} {id : Nat} {t : T} {ps : List Price} {rk iv : Bool} {now : Int}
    (h : sendWith s id t ps rk now iv = some s') : rk = true ∧ s' =
      { s with tunnels := fun i => if i = id then
                 some ({ t with sequence := t.sequence + 1, packets := t.packets ++ [(t.sequence + 1, ps)],
                                latest := updatePrices t.latest ps, lastInterval := if iv then now else t.lastInterval } : T)
               else s.tunnels i,
               payerBal := fun i => if i = id then s.payerBal id - feeOf s t else s.payerBal i,
               totalBaseFees := s.totalBaseFees + s.baseFee } := by
  cases rk with
  | false => cases h
  | true => cases h; exact ⟨rfl, rfl⟩

theorem trigger_cases (s : State) (id sender : Nat) (ps : List Price) (rk : Bool) (now : Int) :
    Guarded .ok s (trigger s id sender ps rk now) fun s' => ∃ t, s.tunnels id = some t ∧ t.creator = sender ∧
      t.isActive = true ∧ s.payerBal id ≥ feeOf s t ∧ rk = true ∧ sendWith s id t ps rk now true = some s' := by
  unfold trigger
  split
  · exact .reject nofun
  rename_i t ht
  refine .ite nofun fun h1 => .ite nofun fun h2 => .ite nofun fun h3 => ?_
  split
  · rename_i s' hs
    exact .accept ⟨t, ht, by simpa using h1, by simpa using h2, by omega, (sendWith_some hs).1, hs⟩
  · exact .reject nofun

theorem produceActive_none {s : State} {id : Nat} (ht : s.tunnels id = none) (feeds : List Price) (now : Int) (rk : Bool) :
    produceActive s id feeds now rk = (s, false) := by
  unfold produceActive; rw [ht]

/-- one tunnel of the end-blocker, by what decides: the fee payer's funds, whether anything is due, the route -/
theorem produceActive_cases {s : State} {id : Nat} {t : T} (ht : s.tunnels id = some t) (feeds : List Price) (now : Int) (rk : Bool) :
    (s.payerBal id < feeOf s t ∧ produceActive s id feeds now rk = (deactivate s id t, false)) ∨
    (feeOf s t ≤ s.payerBal id ∧
      (((newPrices t feeds now = [] ∨ rk = false) ∧ produceActive s id feeds now rk = (s, false)) ∨
       (newPrices t feeds now ≠ [] ∧ rk = true ∧ ∃ s', sendWith s id t (newPrices t feeds now) rk now (dueAll t now) = some s' ∧
          produceActive s id feeds now rk = (s', true)))) := by
  unfold produceActive
  rw [ht]
  dsimp only
  split
  · rename_i hf; exact .inl ⟨hf, rfl⟩
  refine .inr ⟨by omega, ?_⟩
  unfold produceFunded
  split
  · rename_i he; exact .inl ⟨.inl (List.isEmpty_iff.mp he), rfl⟩
  rename_i he
  split
  · rename_i s' hs; exact .inr ⟨fun e => he (List.isEmpty_iff.mpr e), (sendWith_some hs).1, s', hs, rfl⟩
  · rename_i hs; refine .inl ⟨.inr ?_, rfl⟩
    cases rk with
    | false => rfl
    | true => cases hs

theorem endBlock_eq_foldl (feeds : List Price) (now : Int) (rk : Nat → Bool) (l : List Nat) (s : State) :
    endBlock feeds now rk l s = l.foldl (fun s id => (produceActive s id feeds now (rk id)).1) s := by
  induction l generalizing s with
  | nil => rfl
  | cons x xs ih => exact ih _

end BandVerif.Tunnel
