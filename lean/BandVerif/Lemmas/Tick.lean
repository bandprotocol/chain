/- C11: tickToPriceX96 is strictly increasing over the whole tick range; PriceToTick's final correction.
   The products `ratio a` are compared without being evaluated: `a + 1` differs from `a` by a carry, and at each of the
   18 places where the carry can stop the two accumulators are so far apart that the remaining factors, each at most 2⁹⁶,
   cannot close the gap (`monoChk`: 18 small evaluations on the regenerated table). -/
import BandVerif.Lemmas.TickEval

namespace BandVerif.Tick

/-- what is left of a difference `g` between two accumulators after every remaining factor has been applied to it -/
def gapGo : List Nat → Nat → Nat
  | [], g => g
  | p :: rest, g => gapGo rest ((g * p) >>> 96)

/-- a difference between two accumulators survives the rest of the loop at least as `gapGo` of it: a set bit multiplies
    both sides (`⌊x·p/2⁹⁶⌋ + ⌊g·p/2⁹⁶⌋ ≤ ⌊(x+g)·p/2⁹⁶⌋`), a clear bit leaves them alone while `gapGo` shrinks (`p ≤ 2⁹⁶`) -/
theorem ratioBits_gap (l : List Nat) (hl : ∀ p ∈ l, p ≤ q96) (u x y g : Nat) (h : x + g ≤ y) :
    ratioBits l u x + gapGo l g ≤ ratioBits l u y := by
  induction l generalizing u x y g with
  | nil => exact h
  | cons p rest ih =>
    have hp : p ≤ 2 ^ 96 := hl p (List.mem_cons_self ..)   -- `q96` is the literal `2 ^ 96`
    simp only [ratioBits, gapGo, Nat.shiftRight_eq_div_pow]
    apply ih (fun p hp => hl p (List.mem_cons_of_mem _ hp))
    split
    · have : x * p + g * p ≤ y * p := by rw [← Nat.add_mul]; exact Nat.mul_le_mul_right _ h
      exact Nat.le_trans Nat.div_add_div_le_add_div (Nat.div_le_div_right this)
    · have : g * p / 2 ^ 96 ≤ g := Nat.div_le_of_le_mul (by rw [Nat.mul_comm]; exact Nat.mul_le_mul_right _ hp)
      omega

/-- going from tick `a` to `a + 1` clears the trailing one-bits of `a` and sets the next bit `j`. With `x` the accumulator after
    the trailing ones (`a + 1` still has `q96`, which the factor `p` of bit `j` turns into `p`), the check asks at every `j`
    that the gap between `x` and `p` outlives all remaining factors -/
def monoChk : List Nat → Nat → Bool
  | [], _ => true
  | p :: rest, x => decide (p < x ∧ 0 < gapGo rest (x - p)) && monoChk rest ((x * p) >>> 96)

theorem ratioBits_succ_lt (l : List Nat) (hl : ∀ p ∈ l, p ≤ q96) (u x : Nat) (hc : monoChk l x = true) (hu : u + 1 < 2 ^ l.length) :
    ratioBits l (u + 1) q96 < ratioBits l u x := by
  induction l generalizing u x with
  | nil => simp at hu
  | cons p rest ih =>
    have hr : ∀ p ∈ rest, p ≤ q96 := fun p hp => hl p (List.mem_cons_of_mem _ hp)
    simp only [monoChk, Bool.and_eq_true, decide_eq_true_eq] at hc
    obtain ⟨⟨hpx, hg⟩, hc'⟩ := hc
    rw [List.length_cons] at hu
    rw [ratioBits, ratioBits]
    rcases Nat.mod_two_eq_zero_or_one u with h0 | h1
    · -- bit clear in `a`, set in `a + 1`: the carry stops here, the remaining bits agree
      have e : (q96 * p) >>> 96 = p := by rw [Nat.shiftRight_eq_div_pow]; exact Nat.mul_div_cancel_left p (by decide)
      rw [if_neg (show ¬ u % 2 = 1 by omega), if_pos (show (u + 1) % 2 = 1 by omega), show (u + 1) / 2 = u / 2 by omega, e]
      have := ratioBits_gap rest hr (u / 2) p x (x - p) (by omega)
      omega
    · -- bit set in `a`, clear in `a + 1`: the carry goes on
      rw [if_pos h1, if_neg (show ¬ (u + 1) % 2 = 1 by omega), show (u + 1) / 2 = u / 2 + 1 by omega]
      exact ih hr _ _ hc' (by omega)

theorem table_le : ∀ p ∈ Generated.Tick.priceX96AtBinaryTicks, p ≤ q96 := by decide
theorem table_monoChk : monoChk Generated.Tick.priceX96AtBinaryTicks q96 = true := by decide +kernel

theorem ratio_succ_lt (a : Nat) (h : a + 1 ≤ 262143) : ratio (a + 1) < ratio a := by
  unfold ratio
  rw [ratioGo_eq_bits, ratioGo_eq_bits]
  exact ratioBits_succ_lt _ table_le a q96 table_monoChk (by simp [Generated.Tick.priceX96AtBinaryTicks]; omega)

theorem ratio_anti (a b : Nat) (hab : a < b) (hb : b ≤ 262143) : ratio b < ratio a := by
  induction b with
  | zero => omega
  | succ b ih =>
    have s := ratio_succ_lt b hb
    by_cases e : a = b
    · subst e; exact s
    · exact Nat.lt_trans s (ih (by omega) (by omega))

theorem ratio_zero : ratio 0 = q96 := by decide +kernel
theorem ratio_max_pos : 0 < ratio 262143 := by decide +kernel

theorem ratio_le_q96 (a : Nat) (ha : a ≤ 262143) : ratio a ≤ q96 := by
  by_cases e : a = 0
  · subst e; exact Nat.le_of_eq ratio_zero
  · exact ratio_zero ▸ Nat.le_of_lt (ratio_anti 0 a (by omega) ha)

theorem ratio_pos (a : Nat) (ha : a ≤ 262143) : 0 < ratio a := by
  by_cases e : a = 262143
  · subst e; exact ratio_max_pos
  · exact Nat.lt_trans ratio_max_pos (ratio_anti a 262143 (by omega) (Nat.le_refl _))

/-- the quotients of `m` by two different numbers differ as soon as the product of the two fits into `m` -/
theorem div_lt_div_of_mul_le (m x y : Nat) (hx : 0 < x) (hxy : x < y) (h : x * y ≤ m) : m / y < m / x := by
  apply (Nat.le_div_iff_mul_le hx).mpr
  have h1 : m / y * y ≤ m := Nat.div_mul_le_self m y
  have h2 : x ≤ m / y := (Nat.le_div_iff_mul_le (by omega)).mpr h
  have h3 : m / y * x + m / y ≤ m / y * y := by
    exact Nat.mul_le_mul_left _ hxy
  rw [Nat.succ_mul]; omega

theorem inv_mono (a b : Nat) (hab : a < b) (hb : b ≤ 262143) : maxUint192 / ratio a < maxUint192 / ratio b := by
  have hlt := ratio_anti a b hab hb
  have hle := ratio_le_q96 a (by omega)
  apply div_lt_div_of_mul_le _ _ _ (ratio_pos b hb) hlt
  have : ratio b * ratio a ≤ (q96 - 1) * q96 := Nat.mul_le_mul (by omega) hle
  exact Nat.le_trans this (by decide)

theorem inRange_iff (t : Int) : inRange t = true ↔ -262143 ≤ t ∧ t ≤ 262143 := by
  unfold inRange minTick maxTick; simp

theorem x96_strictMono (t1 t2 : Int) (h1 : inRange t1 = true) (h2 : inRange t2 = true) (h : t1 < t2) : x96 t1 < x96 t2 := by
  rw [inRange_iff] at h1 h2
  unfold x96
  have hb : (0 : Nat) < billion := by decide
  apply Nat.mul_lt_mul_of_pos_right _ hb
  by_cases p1 : t1 > 0
  · have p2 : t2 > 0 := by omega
    rw [if_pos p1, if_pos p2]
    exact inv_mono _ _ (by omega) (by omega)
  · rw [if_neg p1]
    by_cases p2 : t2 > 0
    · rw [if_pos p2]
      -- `ratio |t1| ≤ 2⁹⁶ < 2⁹⁶ + 1 ≤ maxUint192 / ratio |t2|`, because `ratio |t2| ≤ 2⁹⁶ − 1` and `(2⁹⁶ + 1)(2⁹⁶ − 1) = maxUint192`
      have a := ratio_le_q96 t1.natAbs (by omega)
      have b := ratio_zero ▸ ratio_anti 0 t2.natAbs (by omega) (by omega)
      have c : (q96 + 1) * ratio t2.natAbs ≤ (q96 + 1) * (q96 - 1) := Nat.mul_le_mul_left _ (by omega)
      have d := (Nat.le_div_iff_mul_le (ratio_pos t2.natAbs (by omega))).mpr (Nat.le_trans c (show _ ≤ maxUint192 by decide))
      omega
    · rw [if_neg p2]
      exact ratio_anti _ _ (by omega) (by omega)

theorem x96_mono_le (t1 t2 : Int) (h1 : inRange t1 = true) (h2 : inRange t2 = true) (h : t1 ≤ t2) : x96 t1 ≤ x96 t2 := by
  by_cases e : t1 = t2
  · subst e; exact Nat.le_refl _
  · exact Nat.le_of_lt (x96_strictMono t1 t2 h1 h2 (by omega))

/-- `r` is the largest valid tick whose price does not exceed `price` -/
def IsLargest (price : Nat) (r : Int) : Prop :=
  inRange r = true ∧ x96 r ≤ price * q96 ∧ ∀ t, inRange t = true → x96 t ≤ price * q96 → t ≤ r

theorem leX96_iff (t : Int) (target : Nat) : leX96 t target = true ↔ inRange t = true ∧ x96 t ≤ target := by
  unfold leX96 x96?
  by_cases h : inRange t = true
  · simp [h]
  · simp [h]

/-- by strict monotonicity a valid tick is the largest one below the target as soon as the next tick is above it -/
theorem isLargest_of_next (price : Nat) (r : Int) (hr : inRange r = true) (hle : x96 r ≤ price * q96)
    (hnext : inRange (r + 1) = true → price * q96 < x96 (r + 1)) : IsLargest price r := by
  refine ⟨hr, hle, fun t ht hlet => Int.not_lt.mp fun hlt => ?_⟩
  have hr' := (inRange_iff _).mp hr
  have ht' := (inRange_iff _).mp ht
  have hin1 : inRange (r + 1) = true := (inRange_iff _).mpr (by omega)
  have h1 := hnext hin1
  by_cases e : t = r + 1
  · subst e; omega
  · have := x96_strictMono (r + 1) t hin1 ht (by omega); omega

/-- PriceToTick's correction: given an approximation within one tick, the result is the largest tick
    whose price does not exceed the input (the hypothesis is `approxOK_all`) -/
theorem priceToTick_largest_partial (price : Nat) (r : Int) (hok : approxOK price = true)
    (h : priceToTick price = some r) : IsLargest price (r - offset) := by
  simp only [approxOK, Bool.and_eq_true, Bool.or_eq_true, Bool.not_eq_true', decide_eq_true_eq, leX96_iff] at hok
  obtain ⟨⟨hin, hup⟩, hlow⟩ := hok
  have hin' := (inRange_iff _).mp hin
  unfold priceToTick at h
  split at h
  · cases h
  simp only [] at h
  rw [if_neg (by unfold maxTick minTick; omega)] at h
  -- a failed comparison at a valid tick means that the target is below that tick's price
  have above : ∀ t, inRange t = true → ¬ leX96 t (price * q96) = true → price * q96 < x96 t :=
    fun t ht c => Nat.lt_of_not_le fun hle => c ((leX96_iff ..).mpr ⟨ht, hle⟩)
  split at h
  · rename_i c1
    cases h
    obtain ⟨i1, l1⟩ := (leX96_iff ..).mp c1
    rw [Int.add_sub_cancel]
    refine isLargest_of_next _ _ i1 l1 fun hin2 => ?_
    rw [Int.add_assoc] at hin2 ⊢
    exact hup.resolve_left fun hf => Bool.noConfusion (hin2.symm.trans hf)
  · rename_i c1
    split at h
    · rename_i c2
      cases h
      obtain ⟨i0, l0⟩ := (leX96_iff ..).mp c2
      rw [Int.add_sub_cancel]
      exact isLargest_of_next _ _ i0 l0 fun hin1 => above _ hin1 c1
    · rename_i c2
      cases h
      rw [Int.add_sub_cancel]
      obtain ⟨i0, l0⟩ := (hlow.resolve_left fun hh => hh.elim (c1 ∘ (leX96_iff ..).mpr) (c2 ∘ (leX96_iff ..).mpr))
      exact isLargest_of_next _ _ i0 l0 fun _ => by rw [Int.sub_add_cancel]; exact above _ hin c2

end BandVerif.Tick
