/- Lemmas for C20 over Model/Grogu.lean: the signaller's decision for a current feed with a stored price, and the chain's rule
   for a stored price, each as one condition. -/
import BandVerif.Model.Grogu

namespace BandVerif.Grogu

/-- for a current feed with a stored price the signaller submits exactly when the cooldown (+ buffer) has passed, one of the
    three triggers holds (assigned time reached, status changed, price deviated), and the price is not an UNAVAILABLE one
    held back until the last FixedIntervalOffset seconds of the interval -/
theorem decideSubmit_iff (cooldown : Int) (h dpOffset dpStart : Nat) (f : Feed) (o : OldPrice) (new : NewPrice) (now : Int) :
    decideSubmit cooldown h dpOffset dpStart (some f) (some o) new now = true ↔
      now ≥ o.ts + cooldown + timeBuffer ∧
      (now ≥ assignedTime h f.interval o.ts dpOffset dpStart ∨ o.status ≠ new.status ∨
        isDeviated f.deviationBP o.price new.price = true) ∧
      (new.status ≠ statusUnavailable ∨ now > o.ts + f.interval - fixedIntervalOffset) := by
  show (shouldUpdate cooldown h dpOffset dpStart f o new now && !nonUrgentUnavailable f (some o) new now) = true ↔ _
  have hs : shouldUpdate cooldown h dpOffset dpStart f o new now = true ↔ now ≥ o.ts + cooldown + timeBuffer ∧
      (now ≥ assignedTime h f.interval o.ts dpOffset dpStart ∨ o.status ≠ new.status ∨
        isDeviated f.deviationBP o.price new.price = true) := by
    unfold shouldUpdate
    split
    · exact ⟨nofun, fun h => by omega⟩
    split
    · exact ⟨fun _ => ⟨by omega, .inl ‹_›⟩, fun _ => rfl⟩
    split
    · exact ⟨fun _ => ⟨by omega, .inr (.inl ‹_›)⟩, fun _ => rfl⟩
    · exact ⟨fun hd => ⟨by omega, .inr (.inr hd)⟩, fun hd => hd.2.elim (absurd · ‹_›) (·.elim (absurd · ‹_›) id)⟩
  have hu : nonUrgentUnavailable f (some o) new now = false ↔
      (new.status ≠ statusUnavailable ∨ now > o.ts + f.interval - fixedIntervalOffset) := by
    unfold nonUrgentUnavailable
    split
    · rename_i c; simp [c]
    · rename_i c; simp [c]
  rw [Bool.and_eq_true, Bool.not_eq_true', hs, hu, and_assoc]

theorem chainAccepts_some (inFeeds : Bool) (cooldown : Int) (o : OldPrice) (blockTime : Int) :
    chainAccepts inFeeds cooldown (some o) blockTime = true ↔ inFeeds = true ∧ (o.status = 0 ∨ blockTime ≥ o.ts + cooldown) := by
  simp [chainAccepts]

end BandVerif.Grogu
