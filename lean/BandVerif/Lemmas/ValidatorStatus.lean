/- Lemmas for C15 over Model/ValidatorStatus.lean: oracle Activate as a guarded update, MissReport as one `if`, feeds CheckMissReport
   as a conjunction (`checkMiss_iff`), and the miss-report sweep of a feed as a fold. -/
import BandVerif.Model.ValidatorStatus
import BandVerif.Common.Guarded

namespace BandVerif.VStatus

theorem activate_cases (s : VS) (penalty now : Int) :
    Guarded .ok s (activate s penalty now) fun s' =>
      s.active = false ∧ (s.sinceZero = true ∨ s.since + penalty ≤ now) ∧ s' = ⟨true, false, now⟩ :=
  .ite nofun fun ha => .ite nofun fun ht => .accept ⟨by simpa using ha, by
    unfold tooSoon at ht
    cases hz : s.sinceZero
    · right; simp [hz] at ht; omega
    · left; rfl, rfl⟩

theorem missReport_eq (s : VS) (requestTime now : Int) :
    missReport s requestTime now = if s.active = true ∧ s.since < requestTime then ⟨false, false, now⟩ else s := by
  unfold missReport missApplies
  simp only [Bool.and_eq_true, decide_eq_true_eq]

/-- feeds CheckMissReport without `max`: a miss exactly when the clock and the height have passed every excuse — the
    feed-list update + grace, the activation + grace and, if there is a price, the last price + interval -/
theorem checkMiss_iff (interval lastUpd lastUpdBlock : Int) (hasPrice : Bool)
    (priceTs priceBlock since blockTime blockHeight grace : Int) :
    checkMiss interval lastUpd lastUpdBlock hasPrice priceTs priceBlock since blockTime blockHeight grace = true ↔
      blockTime > lastUpd + grace ∧ blockTime > since + grace ∧ (hasPrice = true → blockTime > priceTs + interval) ∧
      blockHeight > lastUpdBlock + grace / 3 ∧ (hasPrice = true → blockHeight > priceBlock + interval / 3) := by
  unfold checkMiss maxGuaranteeBlockTime
  cases hasPrice
  · simp; omega
  · simp; omega

/-- whether validator view `v` has missed feed number `fi`, as the sweep tests it -/
def missed (interval lastUpd lastUpdBlock nowNs height grace : Int) (fi : Nat) (v : ValView) : Bool :=
  checkMiss interval lastUpd lastUpdBlock (v.prices.getD fi (false, 0, 0)).1 (v.prices.getD fi (false, 0, 0)).2.1
    (v.prices.getD fi (false, 0, 0)).2.2 (unixOf v.capturedSince) (unixOf nowNs) height grace

theorem sweepFeed_eq_foldl (interval lastUpd lastUpdBlock nowNs height grace : Int) (fi : Nat) (vals : List ValView) (st : Nat → VS) :
    sweepFeed interval lastUpd lastUpdBlock nowNs height grace fi vals st =
      vals.foldl (fun st v => if missed interval lastUpd lastUpdBlock nowNs height grace fi v = true
        then fun i => if i = v.idx then missReport (st v.idx) nowNs nowNs else st i else st) st := by
  induction vals generalizing st with
  | nil => rfl
  | cons v rest ih => exact ih _

end BandVerif.VStatus
