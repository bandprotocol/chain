/- C04 lemmas about the DKG group state machine.  Its operation alphabet (`Op`, `step`: C04's histories are lists of
   these); each message handler stated once as a `Guarded` contract (`submitR1_cases` … `complain_cases`), with
   `processComplaints` given by the list of members it marks (`marked`) and the round-3 messages by what they check of the
   sender (`CanSubmit3`) and the two state changes they are made of (`mark`, `submit3`, which keep the invariant by `Inv.mark`,
   `Inv.submit3`); the invariant `Inv` kept by every operation (`step_inv`); and which operation sets a malicious flag
   (`step_malicious`).  Core-only. -/
import BandVerif.Model.Dkg
import BandVerif.Common.Guarded
import BandVerif.Common.ListFacts

namespace BandVerif.Dkg

inductive Op
  | r1 (mid : Nat) (senderOk : Bool) (commitsLen : Nat) (oneTimeOk a0Ok : Bool)
  | r2 (mid : Nat) (senderOk : Bool) (sharesLen : Nat)
  | complain (senderOk : Bool) (cs : List (Nat × Nat × Bool))
  | confirm (mid : Nat) (senderOk sigOk : Bool)
  | endBlock (height period : Int) (reachable : Bool)

def step (g : Group) : Op → Group
  | .r1 mid s l a b => (submitR1 g mid s l a b).1
  | .r2 mid s l => (submitR2 g mid s l).1
  | .complain s cs => (complain g s cs).1
  | .confirm mid s k => (confirm g mid s k).1
  | .endBlock h p r => endBlock g h p r

def InR (g : Group) (i : Nat) : Prop := 1 ≤ i ∧ i ≤ g.n

structure Inv (g : Group) : Prop where
  /-- `subs3`, the senders of the accepted round-3 messages, lists each of them once, -/
  nodup : g.subs3.Nodup
  /-- all of them members, -/
  inr : ∀ i ∈ g.subs3, InR g i
  /-- and as many as the chain's confirm/complain counter says (so a full counter means every member is listed) -/
  cnt : g.ccount = g.subs3.length
  /-- being listed is carrying one of the two round-3 flags, -/
  mem : ∀ i, i ∈ g.subs3 ↔ ((g.members i).confirmed = true ∨ (g.members i).complained = true)
  /-- never both -/
  excl : ∀ i, ¬ ((g.members i).confirmed = true ∧ (g.members i).complained = true)
  /-- every complaint marks its respondent or its complainant, so where a member has complained some member is
      malicious: this is why a group with a complaint cannot become ACTIVE -/
  compl : ∀ i, (g.members i).complained = true → ∃ j, InR g j ∧ (g.members j).malicious = true
  /-- round-3 messages are rejected before round 3 -/
  early : g.status = .round1 ∨ g.status = .round2 → g.subs3 = []
  /-- the queue discipline of a round: the group sits in the pending-process list at most once, and exactly when the
      round's counter has reached `n`.  `r2count = 0`: round-2 messages are rejected in round 1, so when `processOnce`
      moves the group to round 2 with an empty queue, `q2`'s `r2count < n` holds -/
  q1 : g.status = .round1 → g.queued ≤ 1 ∧ (g.queued = 1 → g.n ≤ g.r1count) ∧ (g.queued = 0 → g.r1count < g.n) ∧ g.r2count = 0
  q2 : g.status = .round2 → g.queued ≤ 1 ∧ (g.queued = 1 → g.n ≤ g.r2count) ∧ (g.queued = 0 → g.r2count < g.n)
  q3 : g.status = .round3 → g.queued ≤ 1 ∧ (g.queued = 1 → g.n ≤ g.ccount) ∧ (g.queued = 0 → g.ccount < g.n)
  /-- a group whose creation has ended is never queued, so `processOnce` does not meet one -/
  qf : g.status = .active ∨ g.status = .fallen ∨ g.status = .expired → g.queued = 0
  act : g.status = .active → ∀ i, InR g i → (g.members i).confirmed = true ∧ (g.members i).malicious = false
  npos : 0 < g.n

theorem init_inv (n t : Nat) (h : 0 < n) (ch : Int) : Inv { n := n, t := t, createdHeight := ch } where
  nodup := List.nodup_nil
  inr := by simp
  cnt := rfl
  mem := by simp
  excl := by simp
  compl := by simp
  early := fun _ => rfl
  q1 := fun _ => ⟨by simp, by simp, fun _ => h, rfl⟩
  q2 := fun h => by cases h
  q3 := fun h => by cases h
  qf := fun h => by rcases h with h | h | h <;> cases h
  act := fun h => by cases h
  npos := h

theorem length_le_of_nodup (l : List Nat) (n : Nat) (hn : l.Nodup) (hr : ∀ i ∈ l, 1 ≤ i ∧ i ≤ n) : l.length ≤ n := by
  simpa using hn.length_le_of_subset (l₂ := List.range' 1 n) fun i hi => by have := hr i hi; rw [List.mem_range'_1]; omega

/-- pigeonhole: `n` different ids among `1..n` are all of them, for with one more there would be `n + 1` -/
theorem full_of_nodup (l : List Nat) (n : Nat) (hn : l.Nodup) (hr : ∀ i ∈ l, 1 ≤ i ∧ i ≤ n) (hl : n ≤ l.length) :
    ∀ i, 1 ≤ i ∧ i ≤ n → i ∈ l := fun i hi => Decidable.byContradiction fun hni => by
  have : l.length + 1 ≤ n :=
    length_le_of_nodup (i :: l) n (List.nodup_cons.mpr ⟨hni, hn⟩) (List.forall_mem_cons.mpr ⟨hi, hr⟩)
  omega

theorem enqueueIf_eq (g : Group) (c : Bool) : enqueueIf g c = { g with queued := g.queued + if c then 1 else 0 } := by
  cases c <;> rfl

theorem inRange_iff (g : Group) (i : Nat) : inRange g i = true ↔ InR g i := by unfold inRange InR; simp

/-- the members `processComplaints` marks: the respondent of an upheld complaint, else the complainant.
    (`inRange` reads only `g.n`, which marking does not change, so the list can be computed up front.) -/
def marked (g : Group) (cs : List (Nat × Nat × Bool)) : List Nat :=
  cs.map fun c => if c.2.2 && inRange g c.2.1 then c.2.1 else c.1

/-- `g` with the members of which `b` holds marked malicious -/
def mark (g : Group) (b : Nat → Bool) : Group :=
  { g with members := fun i => { g.members i with malicious := (g.members i).malicious || b i } }

theorem processComplaints_eq (g : Group) (cs : List (Nat × Nat × Bool)) :
    processComplaints g cs = mark g fun i => decide (i ∈ marked g cs) := by
  unfold mark
  fun_induction processComplaints g cs with
  | case1 g => simp [marked]
  | case2 g a b u rest who ih =>
    -- marking changes no `n`, so the rest marks the same members in the marked group as in `g`
    have hm : marked g ((a, b, u) :: rest) = who :: marked (setMember g who { g.members who with malicious := true }) rest := rfl
    rw [ih, hm]
    show Group.mk .. = Group.mk ..
    congr 1
    funext i
    by_cases e : i = who <;> simp [setMember, e]

/-- `g` after an accepted round-3 message (confirm or complain) of member `mid`, whose entry becomes `m` -/
def submit3 (g : Group) (mid : Nat) (m : Member) : Group :=
  { g with members := fun i => if i = mid then m else g.members i, ccount := g.ccount + 1, subs3 := g.subs3 ++ [mid],
           queued := g.queued + if g.ccount + 1 == g.n then 1 else 0 }

/-- Replacing `mid`'s entry by an `m` with `f m = f (ms mid)` changes no `f`-value of the member table.  At every use
    `m` is `{ ms mid with x := … }` for a flag `x` that `f` does not read, so `hm` holds by `rfl`: hence its default. -/
theorem ite_member {α : Type} (f : Member → α) {ms : Nat → Member} {mid : Nat} {m : Member} (i : Nat)
    (hm : f m = f (ms mid) := by rfl) :
    f (if i = mid then m else ms i) = f (ms i) := by
  split
  · subst_vars; exact hm
  · rfl

theorem submitR1_cases (g : Group) (mid : Nat) (s : Bool) (l : Nat) (a b : Bool) :
    Guarded .ok g (submitR1 g mid s l a b) fun g' => g.status = .round1 ∧ g' = { g with
      members := fun j => if j = mid then { g.members mid with r1 := true } else g.members j
      r1count := g.r1count + 1, queued := g.queued + if g.r1count + 1 == g.n then 1 else 0 } := by
  unfold submitR1
  refine .ite nofun fun c => .ite nofun fun _ => .ite nofun fun _ => .ite nofun fun _ => .ite nofun fun _ => .ite nofun fun _ => ?_
  exact .accept ⟨by simpa using c, enqueueIf_eq ..⟩

theorem submitR2_cases (g : Group) (mid : Nat) (s : Bool) (l : Nat) :
    Guarded .ok g (submitR2 g mid s l) fun g' => g.status = .round2 ∧ g' = { g with
      members := fun j => if j = mid then { g.members mid with r2 := true } else g.members j
      r2count := g.r2count + 1, queued := g.queued + if g.r2count + 1 == g.n then 1 else 0 } := by
  unfold submitR2
  refine .ite nofun fun c => .ite nofun fun _ => .ite nofun fun _ => .ite nofun fun _ => ?_
  exact .accept ⟨by simpa using c, enqueueIf_eq ..⟩

/-- what `confirm` and `complain` check of the sender `mid` of a round-3 message before they accept it -/
structure CanSubmit3 (g : Group) (mid : Nat) : Prop where
  round3 : g.status = .round3
  inr : InR g mid
  notConfirmed : (g.members mid).confirmed = false
  notComplained : (g.members mid).complained = false

theorem confirm_cases (g : Group) (mid : Nat) (s k : Bool) :
    Guarded .ok g (confirm g mid s k) fun g' =>
      CanSubmit3 g mid ∧ g' = submit3 g mid { g.members mid with confirmed := true } := by
  unfold confirm
  refine .ite nofun fun c1 => .ite nofun fun c2 => .ite nofun fun c3 => .ite nofun fun c4 => .ite nofun fun _ => ?_
  exact .accept ⟨⟨by simpa using c1, by simpa [inRange_iff] using (by simpa using c2 : s = true ∧ inRange g mid = true).2,
    by simpa using c3, by simpa using c4⟩, enqueueIf_eq ..⟩

/-- a complaint is the marking of `processComplaints` followed by the round-3 record of the complainant -/
theorem complain_cases (g : Group) (s : Bool) (cs : List (Nat × Nat × Bool)) :
    Guarded .ok g (complain g s cs) fun g' => ∃ mid r u rest, cs = (mid, r, u) :: rest ∧ CanSubmit3 g mid ∧
      g' = submit3 (mark g fun i => decide (i ∈ marked g cs)) mid
        { g.members mid with complained := true, malicious := (g.members mid).malicious || decide (mid ∈ marked g cs) } := by
  unfold complain
  split; · exact .reject nofun
  rename_i mid r u rest
  refine .ite nofun fun c1 => .ite nofun fun c2 => .ite nofun fun c3 => .ite nofun fun c4 => ?_
  refine .accept ⟨mid, r, u, rest, rfl, ⟨by simpa using c1,
    by simpa [inRange_iff] using (by simpa using c2 : s = true ∧ inRange g mid = true).2, by simpa using c3, by simpa using c4⟩, ?_⟩
  rw [enqueueIf_eq, processComplaints_eq]; rfl

theorem queue_bump {q c n : Nat} (h : q ≤ 1 ∧ (q = 1 → n ≤ c) ∧ (q = 0 → c < n)) :
    q + (if c + 1 == n then 1 else 0) ≤ 1 ∧ (q + (if c + 1 == n then 1 else 0) = 1 → n ≤ c + 1) ∧
    (q + (if c + 1 == n then 1 else 0) = 0 → c + 1 < n) := by
  by_cases e : c + 1 = n <;> simp [e] <;> omega

/-- what `Inv` reads of a member -/
def flags (m : Member) := (m.confirmed, m.complained, m.malicious)

theorem Inv.members_congr {g : Group} (h : Inv g) (ms : Nat → Member) (hm : ∀ i, flags (ms i) = flags (g.members i)) :
    Inv { g with members := ms } := by
  -- with `hm` as its three equations, each clause becomes the one of `Inv g`
  simp only [flags, Prod.mk.injEq] at hm
  cases h
  constructor <;> simp only [hm] <;> assumption

/-- The `r1` flag is none of those `Inv` reads, and `r1count` and `queued` occur in the queue clauses only.  `{ … with q1 := … }`
    although the state differs: a clause not listed reads none of the fields updated, so after unfolding the update its type
    is the one wanted. -/
theorem submitR1_inv (g : Group) (mid : Nat) (s : Bool) (l : Nat) (a b : Bool) (h : Inv g) : Inv (submitR1 g mid s l a b).1 := by
  refine (submitR1_cases g mid s l a b).inv h ?_
  rintro _ ⟨hst, rfl⟩
  obtain ⟨hq, hq1, hq0, hr2⟩ := h.q1 hst
  obtain ⟨hq', hq1', hq0'⟩ := queue_bump ⟨hq, hq1, hq0⟩
  exact { h.members_congr _ fun i => ite_member flags i with
    q1 := fun _ => ⟨hq', hq1', hq0', hr2⟩, q2 := by simp [hst], q3 := by simp [hst], qf := by simp [hst] }

theorem submitR2_inv (g : Group) (mid : Nat) (s : Bool) (l : Nat) (h : Inv g) : Inv (submitR2 g mid s l).1 := by
  refine (submitR2_cases g mid s l).inv h ?_
  rintro _ ⟨hst, rfl⟩
  exact { h.members_congr _ fun i => ite_member flags i with
    q1 := by simp [hst], q2 := fun _ => queue_bump (h.q2 hst), q3 := by simp [hst], qf := by simp [hst] }

/-- marking members in round 3: the flags only grow, so a complaint keeps its malicious member, and the group is not active -/
theorem Inv.mark {g : Group} (h : Inv g) (hst : g.status = .round3) (b : Nat → Bool) : Inv (mark g b) :=
  { h with compl := fun i hi => let ⟨j, hj, hm⟩ := h.compl i hi; ⟨j, hj, by simp [Dkg.mark, hm]⟩
           act := fun ha => nomatch hst.symm.trans ha }

/-- `m` carries exactly one of the two round-3 flags (`hself`), keeps the malicious flag (`hmal`) and, if it is the complained
    flag, comes with a marked member (`hcompl`: `compl` for `mid`). -/
theorem Inv.submit3 {g : Group} (h : Inv g) {mid : Nat} (ok : CanSubmit3 g mid) {m : Member}
    (hself : m.confirmed = !m.complained) (hmal : m.malicious = (g.members mid).malicious)
    (hcompl : m.complained = true → ∃ j, InR g j ∧ (g.members j).malicious = true) : Inv (submit3 g mid m) := by
  obtain ⟨hst, hmid, hnc, hnp⟩ := ok
  have hnotin : mid ∉ g.subs3 := fun hin => by simpa [hnc, hnp] using (h.mem mid).mp hin
  unfold Dkg.submit3
  exact {
    nodup := nodup_concat h.nodup hnotin
    inr := List.forall_mem_append.mpr ⟨h.inr, fun i hi => by rw [List.mem_singleton.mp hi]; exact hmid⟩
    cnt := by simp [h.cnt]
    mem := fun i => by
      by_cases e : i = mid
      · subst e; cases hc : m.complained <;> simp [hself, hc]
      · simp [e, h.mem i]
    excl := fun i => by
      by_cases e : i = mid
      · subst e; simp [hself]
      · simpa [e] using h.excl i
    compl := fun i hi => by
      -- the malicious member is the one `i` had before, or the one that comes with `m`; its flag is unchanged
      have : ∃ j, InR g j ∧ (g.members j).malicious = true := by
        by_cases e : i = mid
        · exact hcompl (by simpa [e] using hi)
        · exact h.compl i (by simpa [e] using hi)
      obtain ⟨j, hj, hjm⟩ := this
      exact ⟨j, hj, (ite_member (·.malicious) j hmal).trans hjm⟩
    early := by simp [hst]
    q1 := by simp [hst]
    q2 := by simp [hst]
    q3 := fun _ => queue_bump (h.q3 hst)
    qf := by simp [hst]
    act := by simp [hst]
    npos := h.npos }

theorem confirm_inv (g : Group) (mid : Nat) (s k : Bool) (h : Inv g) : Inv (confirm g mid s k).1 := by
  refine (confirm_cases g mid s k).inv h ?_
  rintro _ ⟨ok, rfl⟩
  exact h.submit3 ok (by simp [ok.notComplained]) rfl (by simp [ok.notComplained])

theorem complain_inv (g : Group) (s : Bool) (cs : List (Nat × Nat × Bool)) (h : Inv g) : Inv (complain g s cs).1 := by
  refine (complain_cases g s cs).inv h ?_
  rintro _ ⟨mid, r, u, rest, hcs, ok, rfl⟩
  -- marking changes none of the fields `ok` reads
  refine (h.mark ok.round3 _).submit3 { ok with } (by simp [ok.notConfirmed]) rfl fun _ => ?_
  -- the first complaint marks its respondent or `mid` itself, both in range
  refine ⟨if (u && inRange g r) = true then r else mid, show InR g _ from ?_, by simp [mark, hcs, marked]⟩
  split
  · rename_i hu; exact (inRange_iff g r).mp (Bool.and_eq_true_iff.mp hu).2
  · exact ok.inr

theorem anyMalicious_false_iff (g : Group) : anyMalicious g = false ↔ ∀ i, InR g i → (g.members i).malicious = false := by
  simp only [anyMalicious, InR, List.any_eq_false, List.mem_range, Bool.not_eq_true]
  -- the loop index `k` stands for member `k + 1`
  exact ⟨fun h i hi => by simpa [Nat.sub_add_cancel hi.1] using h (i - 1) (by omega), fun h k hk => h (k + 1) ⟨by omega, by omega⟩⟩

theorem processOnce_inv (g : Group) (h : Inv g) (hq : g.queued = 1) : Inv { processOnce g with queued := 0 } := by
  unfold processOnce
  split <;> rename_i hst
  · -- round 1 → 2: no round-2 message was accepted yet.  The clauses not listed read neither `status` nor `queued`; those
    -- guarded by a status the new state does not have are vacuous (`nofun`)
    exact { h with early := fun _ => h.early (.inl hst), q1 := nofun, qf := nofun, act := nofun
                   q2 := fun _ => ⟨Nat.zero_le _, nofun, fun _ => (h.q1 hst).2.2.2 ▸ h.npos⟩, q3 := nofun }
  · -- round 2 → 3: no round-3 message was accepted yet
    exact { h with early := nofun, q1 := nofun, q2 := nofun, qf := nofun, act := nofun
                   q3 := fun _ => ⟨Nat.zero_le _, nofun, fun _ => by simpa [h.cnt, h.early (.inr hst)] using h.npos⟩ }
  · -- round 3 ends: all `n` members are on the list, so each has confirmed or complained
    have hfull := full_of_nodup g.subs3 g.n h.nodup h.inr (h.cnt ▸ (h.q3 hst).2.1 hq)
    split <;> rename_i hm
    · exact { h with early := nofun, q1 := nofun, q2 := nofun, q3 := nofun, qf := fun _ => rfl, act := nofun }
    · have hnm := (anyMalicious_false_iff g).mp (by simpa using hm)
      refine { h with early := nofun, q1 := nofun, q2 := nofun, q3 := nofun, qf := fun _ => rfl, act := fun _ i hi => ⟨?_, hnm i hi⟩ }
      rcases (h.mem i).mp (hfull i hi) with c | c
      · exact c
      · obtain ⟨j, hj, hjm⟩ := h.compl i c
        rw [hnm j hj] at hjm; cases hjm
  · -- a finished group is never queued
    have : g.queued = 0 := h.qf (by cases hs : g.status <;> simp_all)
    omega

theorem queued_le_one (g : Group) (h : Inv g) : g.queued ≤ 1 := by
  cases hst : g.status with
  | round1 => exact (h.q1 hst).1
  | round2 => exact (h.q2 hst).1
  | round3 => exact (h.q3 hst).1
  | _ => simp [h.qf (by simp [hst])]

/-- the single-group end-block in the terms of the walk over all groups (`due`, `expireOne`): after the queue, a
    reachable group that still holds interim data and is due gets `expireOne` -/
theorem endBlock_eq (g : Group) (height period : Int) (r : Bool) :
    endBlock g height period r =
      let g1 := { processQueued g.queued g with queued := 0 }
      if r && g1.interim && due period height g1 then expireOne g1 else g1 := rfl

theorem expire_inv (g : Group) (h : Inv g) (hq : g.queued = 0) : Inv (expireOne g) := by
  unfold expireOne
  split
  · exact { h with early := nofun, q1 := nofun, q2 := nofun, q3 := nofun, qf := fun _ => hq, act := nofun }
  · exact { h with } -- `Inv` does not read `interim`

theorem endBlock_inv (g : Group) (height period : Int) (r : Bool) (h : Inv g) : Inv (endBlock g height period r) := by
  rw [endBlock_eq]
  have h1 : Inv { processQueued g.queued g with queued := 0 } := by
    rcases Nat.le_one_iff_eq_zero_or_eq_one.mp (queued_le_one g h) with hq | hq <;> rw [hq]
    · show Inv { g with queued := 0 }
      rw [← hq]; exact h
    · exact processOnce_inv g h hq
  simp only []
  split
  · exact expire_inv _ h1 rfl
  · exact h1

theorem step_inv (g : Group) (op : Op) (h : Inv g) : Inv (step g op) := by
  cases op with
  | r1 mid s l a b => exact submitR1_inv g mid s l a b h
  | r2 mid s l => exact submitR2_inv g mid s l h
  | complain s cs => exact complain_inv g s cs h
  | confirm mid s k => exact confirm_inv g mid s k h
  | endBlock hh p r => exact endBlock_inv g hh p r h

theorem endBlock_members (g : Group) (height period : Int) (r : Bool) : (endBlock g height period r).members = g.members := by
  have once : ∀ g : Group, (processOnce g).members = g.members := fun g => by fun_cases processOnce g <;> rfl
  have queued : ∀ k (g : Group), (processQueued k g).members = g.members := fun k g => by
    fun_induction processQueued k g with
    | case1 => rfl
    | case2 k g ih => exact ih.trans (once g)
  unfold endBlock; simp only []
  split
  · split <;> exact queued _ g
  · exact queued _ g

theorem step_malicious (g : Group) (op : Op) (i : Nat) (h : ((step g op).members i).malicious = true) :
    (g.members i).malicious = true ∨ ∃ s cs, op = .complain s cs ∧ i ∈ marked g cs := by
  cases op with
  | r1 mid s l a b =>
    exact .inl ((submitR1_cases g mid s l a b).inv (P := fun g' => (g'.members i).malicious = (g.members i).malicious) rfl
      (by rintro _ ⟨_, rfl⟩; exact ite_member (·.malicious) i) ▸ h)
  | r2 mid s l =>
    exact .inl ((submitR2_cases g mid s l).inv (P := fun g' => (g'.members i).malicious = (g.members i).malicious) rfl
      (by rintro _ ⟨_, rfl⟩; exact ite_member (·.malicious) i) ▸ h)
  | confirm mid s k =>
    exact .inl ((confirm_cases g mid s k).inv (P := fun g' => (g'.members i).malicious = (g.members i).malicious) rfl
      (by rintro _ ⟨_, rfl⟩; exact ite_member (·.malicious) i) ▸ h)
  | endBlock hh p r => exact .inl (by rwa [step, endBlock_members] at h)
  | complain s cs =>
    -- the motive is the claim as a function of the state after; of `g` (a rejected complaint) it holds by `.inl`
    refine (complain_cases g s cs).inv (P := fun g' => (g'.members i).malicious = true → _) .inl ?_ h
    rintro _ ⟨mid, _, _, _, _, _, rfl⟩ hi
    have : ((g.members i).malicious || decide (i ∈ marked g cs)) = true :=
      (ite_member (ms := (mark g _).members) (·.malicious) i).symm.trans hi
    rw [Bool.or_eq_true, decide_eq_true_eq] at this
    exact this.imp_right fun hm => ⟨s, cs, rfl, hm⟩

end BandVerif.Dkg
