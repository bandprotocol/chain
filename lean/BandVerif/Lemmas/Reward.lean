/- Lemmas for C14 over Model/Reward.lean: what the two allocations return (`oracleAlloc_some`, `tssAlloc_some`); the truncating 18-decimal operations only lose (`mulTrunc_le`, `sum_map_div_le`), the
   reward share is ⌊pool·pct/100⌋ (`share_eq`), power fractions and the rewards cut from them sum to at most the whole. -/
import BandVerif.Model.Reward
import Mathlib.Tactic.Ring
import Mathlib.Tactic.Linarith
import Mathlib.Tactic.Positivity

namespace BandVerif.Reward

theorem E18_pos : (0 : Int) < E18 := by decide

theorem mulTrunc_nonneg {a b : Int} (ha : 0 ≤ a) (hb : 0 ≤ b) : 0 ≤ mulTrunc a b :=
  Int.ediv_nonneg (mul_nonneg ha hb) E18_pos.le

/-- multiplying by a factor of at most 1 (raw `E18`) does not increase -/
theorem mulTrunc_le {a b : Int} (ha : 0 ≤ a) (hb : b ≤ E18) : mulTrunc a b ≤ a :=
  Int.ediv_le_of_le_mul E18_pos (mul_le_mul_of_nonneg_left hb ha)

theorem truncInt_nonneg {a : Int} (ha : 0 ≤ a) : 0 ≤ truncInt a := Int.ediv_nonneg ha E18_pos.le

theorem truncInt_le {a b : Int} (h : a ≤ b * E18) : truncInt a ≤ b := Int.ediv_le_of_le_mul E18_pos h

theorem mulTrunc_mul_le (a b : Int) : mulTrunc a b * E18 ≤ a * b := Int.ediv_mul_le _ E18_pos.ne'

theorem truncInt_mul_le (a : Int) : truncInt a * E18 ≤ a := Int.ediv_mul_le _ E18_pos.ne'

theorem quoTrunc_mul_le (a : Int) {b : Int} (hb : 0 < b) : quoTrunc a b * b ≤ a * E18 := Int.ediv_mul_le _ hb.ne'

theorem sum_map_mul_left {α : Type} (l : List α) (f : α → Int) (x : Int) : (l.map fun a => x * f a).sum = x * (l.map f).sum := by
  induction l with
  | nil => simp
  | cons y ys ih => simp only [List.map_cons, List.sum_cons, ih]; ring

/-- truncating every summand only loses: Σ ⌊g a / c⌋ ≤ B once Σ g a ≤ B · c -/
theorem sum_map_div_le {α : Type} (l : List α) (g : α → Int) {c B : Int} (hc : 0 < c) :
    (l.map g).sum ≤ B * c → (l.map fun a => g a / c).sum ≤ B := by
  have key : (l.map fun a => g a / c).sum * c ≤ (l.map g).sum := by
    induction l with
    | nil => simp
    | cons x xs ih =>
      simp only [List.map_cons, List.sum_cons]
      linarith [Int.ediv_mul_le (g x) hc.ne', add_mul (g x / c) (xs.map fun a => g a / c).sum c]
  exact fun h => le_of_mul_le_mul_right (key.trans h) hc

/-- the oracle/tss share: ⌊pool · pct / 100⌋ -/
theorem share_eq (pool pct : Int) :
    truncInt (mulTrunc (pool * E18) (pct * 10000000000000000)) = pool * pct / 100 := by
  unfold truncInt mulTrunc
  have h1 : pool * E18 * (pct * 10000000000000000) / E18 = pool * pct * 10000000000000000 := by
    rw [show pool * E18 * (pct * 10000000000000000) = (pool * pct * 10000000000000000) * E18 by ring]
    exact Int.mul_ediv_cancel _ (ne_of_gt E18_pos)
  rw [h1]
  have : E18 = 10000000000000000 * 100 := by decide
  rw [this, show pool * pct * 10000000000000000 = 10000000000000000 * (pool * pct) by ring]
  exact Int.mul_ediv_mul_of_pos _ _ (by decide)

theorem share_bounds (pool pct : Int) (hp : 0 ≤ pool) (h0 : 0 ≤ pct) (h1 : pct ≤ 100) :
    0 ≤ pool * pct / 100 ∧ pool * pct / 100 ≤ pool := by
  constructor
  · exact Int.ediv_nonneg (by positivity) (by decide)
  · apply Int.ediv_le_of_le_mul (by decide); nlinarith

/-- power fractions: Σ ⌊pᵢ·10¹⁸/P⌋ ≤ 10¹⁸ -/
theorem fractions_le (powers : List Int) (hp : ∀ p ∈ powers, 0 ≤ p) (ht : 0 < powers.sum) :
    (powers.map fun p => quoTrunc (p * E18) (powers.sum * E18)).sum ≤ E18 ∧
    ∀ p ∈ powers, 0 ≤ quoTrunc (p * E18) (powers.sum * E18) := by
  have hc : 0 < powers.sum * E18 := mul_pos ht E18_pos
  refine ⟨sum_map_div_le powers (fun p => p * E18 * E18) hc (le_of_eq ?_), fun p hpm => ?_⟩
  · rw [show (fun p : Int => p * E18 * E18) = fun p => E18 * E18 * p from funext fun p => by ring,
      sum_map_mul_left powers fun p => p, List.map_id']; ring
  · exact Int.ediv_nonneg (mul_nonneg (mul_nonneg (hp p hpm) E18_pos.le) E18_pos.le) hc.le

/-- Σ ⌊X·qᵢ/10¹⁸⌋ ≤ X when Σ qᵢ ≤ 10¹⁸, for fractions `q = f a` read off a list -/
theorem rewards_le {α : Type} (X : Int) (l : List α) (f : α → Int) (hX : 0 ≤ X) (hf : ∀ a ∈ l, 0 ≤ f a)
    (hs : (l.map f).sum ≤ E18) : (l.map fun a => mulTrunc X (f a)).sum ≤ X ∧ ∀ a ∈ l, 0 ≤ mulTrunc X (f a) :=
  ⟨sum_map_div_le l (fun a => X * f a) E18_pos (sum_map_mul_left l f X ▸ mul_le_mul_of_nonneg_left hs hX),
   fun a ha => mulTrunc_nonneg hX (hf a ha)⟩

/-- oracle AllocateTokens, when it allocates: the share ⌊pool·pct/100⌋, the community fund cut from it, every voter's
    reward from the rest `X` by its power fraction, the remainder -/
theorem oracleAlloc_some {pool pct tax : Int} {powers : List Int} {o : OracleOut} (h : oracleAlloc pool pct tax powers = some o) :
    powers.sum ≠ 0 ∧ ∃ X, X = pool * pct / 100 * E18 - truncInt (mulTrunc (pool * pct / 100 * E18) tax) * E18 ∧ o =
      { transferred := pool * pct / 100, communityFund := truncInt (mulTrunc (pool * pct / 100 * E18) tax),
        rewards := powers.map fun p => mulTrunc X (quoTrunc (p * E18) (powers.sum * E18)),
        remaining := X - (powers.map fun p => mulTrunc X (quoTrunc (p * E18) (powers.sum * E18))).sum } := by
  unfold oracleAlloc at h
  dsimp only at h
  split at h
  · cases h
  · rw [share_eq] at h; cases h; exact ⟨‹_›, _, rfl, rfl⟩

/-- bandtss AllocateTokens, when it allocates: the share, and each member's whole-coin part of what is left after tax -/
theorem tssAlloc_some {pool pct tax n : Int} {o : TssOut} (h : tssAlloc pool pct tax n = some o) :
    ∃ per, per = truncInt (mulTrunc (mulTrunc (pool * pct / 100 * E18) (E18 - tax)) (quoTrunc E18 (n * E18))) ∧
      o = { transferred := pool * pct / 100, perMember := per, communityFund := pool * pct / 100 - per * n } := by
  unfold tssAlloc at h
  dsimp only at h
  split at h
  · cases h
  · rw [share_eq] at h; cases h; exact ⟨_, rfl, rfl⟩

end BandVerif.Reward
