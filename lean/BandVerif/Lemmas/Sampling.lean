/- C09 lemmas: when ChooseOne panics (`chooseOne_spec`); a sample of ChooseSome or of the partial Fisher–Yates, with some
   remainder, is a permutation of the list drawn from (`chooseSome_perm`, `fisherYates_perm`), and size, membership,
   distinctness and the weight bound are read off that.  Core only. -/
import BandVerif.Model.Sampling

namespace BandVerif.Sampling

theorem safeSum_eq (ws : List Nat) (acc : Nat) (ha : acc < two64) :
    safeSum ws acc = if acc + ws.sum < two64 then some (acc + ws.sum) else none := by
  induction ws generalizing acc with
  | nil => simp [safeSum, ha]
  | cons w rest ih =>
    simp only [safeSum]
    by_cases h : two64 - 1 - acc < w
    · have : ¬ acc + (w + rest.sum) < two64 := by omega
      simp [h, this]
    · rw [if_neg h, ih (acc + w) (by omega)]
      simp only [Nat.add_assoc]
      by_cases hh : acc + (w + rest.sum) < two64 <;> simp [hh]

theorem pick_spec (ws : List Nat) (lucky idx cum : Nat) (h1 : cum ≤ lucky) (h2 : lucky < cum + ws.sum) :
    ∃ i, pick ws lucky idx cum = some (idx + i) ∧ i < ws.length ∧ 0 < ws.getD i 0 := by
  induction ws generalizing idx cum with
  | nil => simp at h2; omega
  | cons w rest ih =>
    simp only [pick]
    by_cases h : cum + w > lucky
    · exact ⟨0, by simp [h], by simp, by simp; omega⟩
    · obtain ⟨i, e, hl, hp⟩ := ih (idx + 1) (cum + w) (by omega) (by simp only [List.sum_cons] at h2; omega)
      refine ⟨i + 1, ?_, by simp; omega, by simpa using hp⟩
      rw [if_neg h, e]; congr 1; omega

theorem chooseOne_spec (ws : List Nat) (x : Nat) :
    (chooseOne ws x = none ↔ (ws.sum ≥ two64 ∨ ws.sum = 0)) ∧
    (∀ i, chooseOne ws x = some i → i < ws.length ∧ 0 < ws.getD i 0) := by
  unfold chooseOne
  rw [safeSum_eq ws 0 (by decide), Nat.zero_add]
  by_cases hlt : ws.sum < two64
  · rw [if_pos hlt]
    by_cases hz : ws.sum = 0
    · simp [hz]
    · -- the lucky number is below the sum, so the scan stops inside the list
      obtain ⟨i, e, hl, hp⟩ := pick_spec ws (x % ws.sum) 0 0 (Nat.zero_le _)
        (by rw [Nat.zero_add]; exact Nat.mod_lt _ (Nat.pos_of_ne_zero hz))
      obtain ⟨n, hn⟩ : ∃ n, ws.sum = n + 1 := ⟨ws.sum - 1, by omega⟩
      simp only [Nat.zero_add] at e ⊢
      rw [e]
      exact ⟨⟨nofun, fun h => by omega⟩, fun j hj => by cases hj; exact ⟨hl, hp⟩⟩
  · rw [if_neg hlt]
    exact ⟨⟨fun _ => .inl (by omega), fun _ => rfl⟩, nofun⟩

theorem perm_cons_eraseIdx {α : Type} {l : List α} {c : Nat} {x : α} (h : l[c]? = some x) : (x :: l.eraseIdx c).Perm l := by
  induction l generalizing c with
  | nil => simp at h
  | cons y ys ih =>
    cases c with
    | zero => simp at h; subst h; exact .refl _
    | succ c => exact (List.Perm.swap ..).trans ((ih (by simpa using h)).cons y)

/-- what membership, distinctness and weight of a sample `l` follow from: `l` with some remainder is a permutation of
    the list drawn from -/
theorem of_append_perm {l rest I : List Nat} (h : (l ++ rest).Perm I) (f : Nat → Nat) :
    (∀ x ∈ l, x ∈ I) ∧ (I.Nodup → l.Nodup) ∧ (l.map f).sum ≤ (I.map f).sum := by
  refine ⟨fun x hx => h.mem_iff.mp (List.mem_append_left _ hx), fun hn => (List.nodup_append.mp (h.nodup_iff.mpr hn)).1, ?_⟩
  rw [← (h.map f).sum_nat, List.map_append, List.sum_append_nat]
  exact Nat.le_add_right ..

theorem chooseSome_perm (cnt : Nat) (availW availI : List Nat) (rand : Nat → Nat) (pos : Nat) (l : List Nat)
    (h : chooseSome cnt availW availI rand pos = some l) : l.length = cnt ∧ ∃ rest, (l ++ rest).Perm availI := by
  induction cnt generalizing availW availI pos l with
  | zero => cases h; exact ⟨rfl, availI, .refl _⟩
  | succ cnt ih =>
    simp only [chooseSome] at h
    split at h; · cases h
    split at h; · cases h
    split at h; · cases h
    rename_i c _ i hi _ l' hr
    cases h
    obtain ⟨hlen, rest, hp⟩ := ih _ _ _ _ hr
    exact ⟨congrArg (· + 1) hlen, rest, (hp.cons i).trans (perm_cons_eraseIdx hi)⟩

theorem chooseSome_spec (cnt : Nat) (availW availI : List Nat) (rand : Nat → Nat) (pos : Nat) (l : List Nat)
    (h : chooseSome cnt availW availI rand pos = some l) :
    l.length = cnt ∧ (∀ x ∈ l, x ∈ availI) ∧ (availI.Nodup → l.Nodup) := by
  obtain ⟨hlen, rest, hp⟩ := chooseSome_perm cnt availW availI rand pos l h
  exact ⟨hlen, (of_append_perm hp id).1, (of_append_perm hp id).2.1⟩

theorem chooseSome_total (cnt : Nat) (availW availI : List Nat) (rand : Nat → Nat) (pos : Nat)
    (hlen : availW.length = availI.length) (hcnt : cnt ≤ availW.length)
    (hp : ∀ w ∈ availW, 0 < w) (hs : availW.sum < two64) :
    ∃ l, chooseSome cnt availW availI rand pos = some l := by
  induction cnt generalizing availW availI pos with
  | zero => exact ⟨[], rfl⟩
  | succ cnt ih =>
    simp only [chooseSome]
    obtain ⟨w, hw⟩ := List.exists_mem_of_ne_nil availW (by intro e; subst e; simp at hcnt)
    have hsum : 0 < availW.sum := List.sum_pos_iff_exists_pos_nat.mpr ⟨w, hw, hp w hw⟩
    obtain ⟨hnone, hsome⟩ := chooseOne_spec availW (rand pos)
    cases hc : chooseOne availW (rand pos) with
    | none => have := hnone.mp hc; omega
    | some c =>
      have hcl := (hsome c hc).1
      simp only []
      have hci : c < availI.length := by omega
      rw [List.getElem?_eq_getElem hci]
      have hle := (perm_cons_eraseIdx (List.getElem?_eq_getElem hcl)).sum_nat
      obtain ⟨l', hl'⟩ := ih (availW.eraseIdx c) (availI.eraseIdx c) (pos + 1)
        (by simp [List.length_eraseIdx, hci, hlen])
        (by simp [List.length_eraseIdx, hcl]; omega)
        (fun w hw => hp w (List.mem_of_mem_eraseIdx hw))
        (by rw [List.sum_cons] at hle; omega)
      rw [hl']; exact ⟨_, rfl⟩

theorem swapRemove_perm (slots : List Nat) (r : Nat) (hne : slots ≠ []) (hr : r < slots.length) :
    ((swapRemove slots r).1 :: (swapRemove slots r).2).Perm slots := by
  have hbase : (slots.getLastD 0 :: slots.dropLast).Perm slots := by
    have e : slots.getLastD 0 = slots.getLast hne := by simp [List.getLast?_eq_some_getLast hne]
    exact e ▸ (List.perm_append_singleton ..).symm.trans (.of_eq (List.dropLast_concat_getLast hne))
  by_cases h : r = slots.dropLast.length <;> simp only [swapRemove, h, if_true, if_false]
  · exact hbase
  · -- chosen :: (init with `last` at r) ~ chosen :: last :: (init without r) ~ last :: init ~ slots
    have hr' : r < slots.dropLast.length := by have := List.length_dropLast (xs := slots); omega
    have h1 : (slots.dropLast.set r (slots.getLastD 0)).Perm (slots.getLastD 0 :: slots.dropLast.eraseIdx r) := by
      simpa [List.eraseIdx_set_eq] using (perm_cons_eraseIdx (l := slots.dropLast.set r (slots.getLastD 0)) (c := r) (List.getElem?_set_self hr')).symm
    have h2 : (slots.dropLast.getD r 0 :: slots.dropLast.eraseIdx r).Perm slots.dropLast :=
      perm_cons_eraseIdx (by rw [List.getD_eq_getElem?_getD, List.getElem?_eq_getElem hr']; rfl)
    exact ((h1.cons _).trans ((List.Perm.swap ..).trans (h2.cons _))).trans hbase

theorem fisherYates_perm (k : Nat) (slots : List Nat) (rand : Nat → Nat) (pos : Nat) (hk : k ≤ slots.length) :
    (fisherYates k slots rand pos).length = k ∧ ∃ rest, (fisherYates k slots rand pos ++ rest).Perm slots := by
  induction k generalizing slots pos with
  | zero => exact ⟨rfl, slots, .refl _⟩
  | succ k ih =>
    have hl : slots.length ≠ 0 := by omega
    have hperm := swapRemove_perm slots (rand pos % slots.length) (by rintro rfl; exact hl rfl) (Nat.mod_lt _ (by omega))
    obtain ⟨h1, rest, h2⟩ := ih (swapRemove slots (rand pos % slots.length)).2 (pos + 1) (by have := hperm.length_eq; simp at this; omega)
    simp only [fisherYates, hl, if_false]
    exact ⟨congrArg (· + 1) h1, rest, (h2.cons _).trans hperm⟩

theorem fisherYates_spec (k : Nat) (slots : List Nat) (rand : Nat → Nat) (pos : Nat) (hk : k ≤ slots.length)
    (hn : slots.Nodup) :
    (fisherYates k slots rand pos).length = k ∧ (fisherYates k slots rand pos).Nodup ∧
    ∀ x ∈ fisherYates k slots rand pos, x ∈ slots := by
  obtain ⟨hlen, rest, hp⟩ := fisherYates_perm k slots rand pos hk
  exact ⟨hlen, (of_append_perm hp id).2.1 hn, (of_append_perm hp id).1⟩

end BandVerif.Sampling
