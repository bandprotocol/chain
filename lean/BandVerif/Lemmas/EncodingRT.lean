/- Round trips of the ABI payloads of C11: each decoder, on the encoding followed by arbitrary bytes, skips the words before
   each offset it follows (`rd*_skip`; the side conditions are offset arithmetic), reads what stands there (`rd*_head`)
   and converts.
   The buffer is a variable `bs` with `hbs : bs = encoding ++ post`, which simp puts in where it evaluates a read.  Were the
   encoding written into the statement, each `match` that simp reduces (its discriminants read) would leave the kernel two
   `match` terms to identify, which it does by unfolding both, that is by running the decoder on the encoding: a hundred
   times the work of the rest of the proof.  On `bs` the reads are stuck and the kernel compares the terms. -/
import BandVerif.Lemmas.Encoding

namespace BandVerif.Enc

def I256 (i : Int) : Prop := -(2 ^ 255 : Int) ≤ i ∧ i < 2 ^ 255

theorem decFeeds_encFeeds_append (ps : List RelayPrice) (ts : Int) (hw : ∀ p ∈ ps, WFPrice p) (hn : ps.length < 2 ^ 256)
    (ht : I256 ts) {bs post : Bytes} (hbs : bs = encFeeds ps ts ++ post) : decFeeds bs = some (ps, ts) := by
  simp (disch := omega) only [decFeeds, hbs, encFeeds, List.append_assoc,
    -- on the way to an offset: skip a word or a signed word, and the offset that is left
    rdWord_skip (word_length _), rdPriceArray_skip (word_length _), rdPriceArray_skip (wordInt_length _), Nat.sub_self, Nat.reduceSub,
    -- at the offset: the literal offset word, the timestamp word, the price array; the timestamp back to `Int`
    rdWord_word, rdWord_head (wordInt_length _), rdPriceArray_head hw, toInt256_wordInt ht]

theorem decPacket_encPacket_append (seq : Nat) (ps : List RelayPrice) (ts : Int) (hs : seq < 2 ^ 256)
    (hw : ∀ p ∈ ps, WFPrice p) (hn : ps.length < 2 ^ 256) (ht : I256 ts) {bs post : Bytes} (hbs : bs = encPacket seq ps ts ++ post) :
    decPacket bs = some (seq, ps, ts) := by
  simp (disch := omega) only [decPacket, hbs, encPacket, List.append_assoc,
    -- on the way to an offset (all relative to the base read first): skip a word or a signed word, and the offset that is left
    rdWord_skip (word_length _), rdPriceArray_skip (word_length _), rdPriceArray_skip (wordInt_length _), Nat.sub_self, Nat.reduceAdd,
    Nat.reduceSub,
    -- at the offset: the base, the sequence and the array offset, the timestamp word, the price array; the timestamp back to `Int`
    rdWord_word, rdWord_head (wordInt_length _), rdPriceArray_head hw, toInt256_wordInt ht]

/-- The byte lengths are bounded by 2^64 and not by 2^256 (here and in `WFPartial`) because the offsets written in the head are
    the head size plus up to two padded lengths, and they too must stay below 2^256 to be read back (`encBytesLen_lt`). -/
structure WFResult (r : OResult) : Prop where
  osid : r.oracleScriptID < 2 ^ 256
  ask : r.askCount < 2 ^ 256
  mn : r.minCount < 2 ^ 256
  rid : r.requestID < 2 ^ 256
  ans : r.ansCount < 2 ^ 256
  rq : I256 r.requestTime
  rs : I256 r.resolveTime
  st : I256 r.resolveStatus
  lcid : r.clientID.length < 2 ^ 64
  lcd : r.calldata.length < 2 ^ 64
  lres : r.result.length < 2 ^ 64

theorem encBytesLen_lt (n : Nat) (h : n < 2 ^ 64) : encBytesLen n < 2 ^ 65 := by
  unfold encBytesLen padLen; omega

theorem lt_two256 {n : Nat} (h : n < 2 ^ 64) : n < 2 ^ 256 := Nat.lt_trans h (by decide)

/-- `h` stays packed and its fields go to the lemma that needs them: `omega` is called for every word skipped on the way to a
    dynamic offset, and each call collects every arithmetic hypothesis of the context -/
theorem decFull_encFull_append (r : OResult) (h : WFResult r) {bs post : Bytes} (hbs : bs = encFull r ++ post) :
    decFull bs = some r := by
  have l1 := encBytesLen_lt _ h.lcid
  have l2 := encBytesLen_lt _ h.lcd
  simp (disch := first | decide | omega) only [decFull, hbs, encFull, List.append_assoc,
    -- on the way to an offset: skip a head word or signed word (reading a word, reading a bytes field), skip a bytes field of the tail
    rdWord_skip (word_length _), rdWord_skip (wordInt_length _), rdBytes_skip (word_length _), rdBytes_skip (wordInt_length _),
    rdBytes_skip (encBytes_length _),
    -- the offset that is left after a skip
    Nat.sub_add_comm, Nat.zero_add, Nat.sub_self, Nat.reduceAdd, Nat.reduceSub,
    -- at the offset: the base and the three offsets of the bytes fields (bounds by `omega` from `l1`, `l2`), the five unsigned fields,
    -- the three signed words, the three bytes fields
    rdWord_word, rdWord_word h.osid, rdWord_word h.ask, rdWord_word h.mn, rdWord_word h.rid, rdWord_word h.ans,
    rdWord_head (wordInt_length _), rdBytes_head (lt_two256 h.lcid), rdBytes_head (lt_two256 h.lcd),
    rdBytes_head (lt_two256 h.lres),
    -- the signed words back to `Int`
    toInt256_wordInt h.rq, toInt256_wordInt h.rs, toInt256_wordInt h.st]

structure WFPartial (r : PResult) : Prop where
  osid : r.oracleScriptID < 2 ^ 256
  rid : r.requestID < 2 ^ 256
  mn : r.minCount < 2 ^ 256
  rs : I256 r.resolveTime
  st : I256 r.resolveStatus
  lcd : r.calldata.length < 2 ^ 64
  lres : r.result.length < 2 ^ 64

theorem decPartial_encPartial_append (r : PResult) (h : WFPartial r) {bs post : Bytes} (hbs : bs = encPartial r ++ post) :
    decPartial bs = some r := by
  have l1 := encBytesLen_lt _ h.lcd
  -- the same groups as in `decFull_encFull_append`: skips, the offset left, heads (two offsets, three unsigned fields), conversions
  simp (disch := first | decide | omega) only [decPartial, hbs, encPartial, List.append_assoc,
    rdWord_skip (word_length _), rdWord_skip (wordInt_length _), rdBytes_skip (word_length _), rdBytes_skip (wordInt_length _),
    rdBytes_skip (encBytes_length _),
    Nat.sub_add_comm, Nat.zero_add, Nat.sub_self, Nat.reduceAdd, Nat.reduceSub,
    rdWord_word, rdWord_word h.osid, rdWord_word h.rid, rdWord_word h.mn,
    rdWord_head (wordInt_length _), rdBytes_head (lt_two256 h.lcd), rdBytes_head (lt_two256 h.lres),
    toInt256_wordInt h.rs, toInt256_wordInt h.st]

end BandVerif.Enc
