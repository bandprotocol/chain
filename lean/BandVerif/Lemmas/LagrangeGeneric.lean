/- C03: the GENERIC Lagrange routine of pkg/tss (lagrange.ComputeCoefficient, used when an id exceeds the precomputed
   table) computes the true Lagrange coefficient at 0 in the field of scalars — using that the group order is prime
   (Lemmas/GroupOrderPrime.lean).  Mathlib. -/
import BandVerif.Model.Lagrange
import BandVerif.Lemmas.GroupOrderPrime
import Mathlib.FieldTheory.Finite.Basic
import BandVerif.Lemmas.Frost

namespace BandVerif.Lagrange

/-- the modulus of the model (`N`, the regenerated `Generated.Frost.groupOrder`) is the number `Pratt.groupOrder` proved prime
    in Lemmas/GroupOrderPrime.lean: the same literal twice, compared by the kernel (also stated by `C03.scalars_form_a_field`) -/
theorem N_eq : N = Pratt.groupOrder := rfl

instance : Fact (Nat.Prime N) := ⟨N_eq ▸ Pratt.groupOrder_prime⟩

/-- 20!, the bound of the table routine's int64 products, written out once -/
theorem factorial_20 : Nat.factorial 20 = 2432902008176640000 := by decide

theorem N_bounds : Nat.factorial 20 < N ∧ N < 2 ^ 256 := by decide

theorem powMod_eq (b e m : Nat) (h : e < 2 ^ 256) : powMod b e m = b ^ e % m := by
  -- with the fuel a variable, `2 ^ 512` is never formed (Lean refuses to evaluate such a power during unification)
  have key : ∀ f, 256 ≤ f → powModF f b e m = b ^ e % m := fun f hf =>
    powModF_eq f b e m (h.trans_le (Nat.pow_le_pow_right Nat.two_pos hf))
  exact key 512 (by decide)

/-- reduction modulo N as the Go code does it (`Mod`, then back to an unsigned value) is the cast to the field -/
theorem toNat_emod_cast (z : Int) : ((((z % (N : Int)).toNat : ℕ)) : ZMod N) = ((z : Int) : ZMod N) := by
  have hNne : (N : Int) ≠ 0 := by have := (Fact.out : Nat.Prime N).pos; omega
  rw [← Int.cast_natCast, Int.toNat_of_nonneg (Int.emod_nonneg _ hNne)]
  exact ZMod.intCast_mod z N

/-- `invN` is the inverse in the field of scalars (Fermat) -/
theorem invN_spec (a : Int) (ha : (a : ZMod N) ≠ 0) : ((invN a : ℕ) : ZMod N) = (a : ZMod N)⁻¹ := by
  rw [invN, powMod_eq _ _ _ (Nat.lt_of_le_of_lt (Nat.sub_le _ _) N_bounds.2), ZMod.natCast_mod, Nat.cast_pow, toNat_emod_cast]
  refine eq_inv_of_mul_eq_one_left ?_
  rw [← pow_succ]
  exact ZMod.pow_card_sub_one_eq_one ha

theorem foldl_mul_cast (l : List Nat) (f : Nat → Int) (acc : Int) :
    ((l.foldl (fun (a : Int) (j : Nat) => f j * a) acc : Int) : ZMod N) = (acc : ZMod N) * (l.map (fun j => ((f j : Int) : ZMod N))).prod := by
  induction l generalizing acc with
  | nil => simp
  | cons x xs ih =>
    simp only [List.foldl_cons, List.map_cons, List.prod_cons]
    rw [ih]; push_cast; ring

theorem prod_div (l : List Nat) (i : Nat) :
    (l.map (fun (j : Nat) => (((j : Int)) : ZMod N))).prod * ((l.map (fun (j : Nat) => ((((j : Int) - (i : Int)) : Int) : ZMod N))).prod)⁻¹ =
      (l.map (fun (j : Nat) => (j : ZMod N) / ((j : ZMod N) - (i : ZMod N)))).prod := by
  induction l with
  | nil => simp
  | cons x xs ih =>
    simp only [List.map_cons, List.prod_cons, mul_inv]
    rw [← ih]
    simp only [Int.cast_sub, Int.cast_natCast]
    ring

/-- PROPERTY (generic routine): for ANY list of ids and any i, provided no other id is congruent to i modulo the group
    order (e.g. distinct ids below the order), the routine returns ∏_{j ≠ i} j / (j − i) in the field of scalars -/
theorem generic_spec (i : Nat) (s : List Nat) (h : ∀ j ∈ s, j ≠ i → ((j : ZMod N) - (i : ZMod N)) ≠ 0) :
    ((generic i s : ℕ) : ZMod N) = ((s.filter (· ≠ i)).map (fun (j : Nat) => (j : ZMod N) / ((j : ZMod N) - (i : ZMod N)))).prod := by
  have hden : ((s.filter (· ≠ i)).map fun j : Nat => (((j : Int) - (i : Int) : Int) : ZMod N)).prod ≠ 0 := by
    refine List.prod_ne_zero fun h0 => ?_
    obtain ⟨j, hj, e⟩ := List.mem_map.mp h0
    obtain ⟨hj1, hj2⟩ := List.mem_filter.mp hj
    exact h j hj1 (by simpa using hj2) (by push_cast at e; exact e)
  rw [generic, toNat_emod_cast, Int.cast_mul, Int.cast_natCast, invN_spec, foldl_mul_cast, foldl_mul_cast, Int.cast_one, one_mul,
    one_mul]
  · exact prod_div _ i
  · rwa [foldl_mul_cast, Int.cast_one, one_mul]

theorem cast_inj_lt {a b : Nat} (ha : a < N) (hb : b < N) (h : (a : ZMod N) = (b : ZMod N)) : a = b := by
  have := (ZMod.natCast_eq_natCast_iff' a b N).mp h
  rwa [Nat.mod_eq_of_lt ha, Nat.mod_eq_of_lt hb] at this

theorem cast_injOn (s : Finset ℕ) (h : ∀ a ∈ s, a < N) : Set.InjOn (Nat.cast : ℕ → ZMod N) s :=
  fun a ha b hb hab => cast_inj_lt (h a ha) (h b hb) hab

theorem cast_ne_zero (z : Int) (h1 : 1 ≤ z) (h2 : z < N) : ((z : Int) : ZMod N) ≠ 0 := by
  rw [Ne, ZMod.intCast_zmod_eq_zero_iff_dvd]
  exact fun h => by have := Int.le_of_dvd (by omega) h; omega

/-- for distinct ids below the group order, ∏_{j ≠ i} j / (j − i) over the list is the Lagrange coefficient at 0 of node i
    within the node set — the `lagrangeAtZero` that `aggregate_verifies` / `lagrange_interpolates` are stated with -/
theorem prod_eq_lagrangeAtZero (i : Nat) (s : List Nat) (hn : s.Nodup) (hlt : ∀ j ∈ s, j < N) (hi : i < N) :
    ((s.filter (· ≠ i)).map (fun (j : Nat) => (j : ZMod N) / ((j : ZMod N) - (i : ZMod N)))).prod =
      Frost.lagrangeAtZero (s.toFinset.image (Nat.cast : ℕ → ZMod N)) (i : ZMod N) := by
  unfold Frost.lagrangeAtZero
  have hinj := cast_injOn (s.toFinset.erase i) fun a ha => hlt a (List.mem_toFinset.mp (Finset.mem_of_mem_erase ha))
  have himg : (s.toFinset.image (Nat.cast : ℕ → ZMod N)).erase (i : ZMod N) = (s.toFinset.erase i).image (Nat.cast : ℕ → ZMod N) := by
    ext x
    simp only [Finset.mem_erase, Finset.mem_image, List.mem_toFinset]
    constructor
    · rintro ⟨hne, a, ha, rfl⟩
      exact ⟨a, ⟨fun e => hne (by rw [e]), ha⟩, rfl⟩
    · rintro ⟨a, ⟨hne, ha⟩, rfl⟩
      exact ⟨fun e => hne (cast_inj_lt (hlt a ha) hi e), a, ha, rfl⟩
  rw [himg, Finset.prod_image hinj]
  have hf : s.toFinset.erase i = (s.filter (· ≠ i)).toFinset := by
    ext x; simp [and_comm]
  rw [hf, List.prod_toFinset _ (hn.filter _)]

/-- PROPERTY (generic routine = the interpolation coefficient): for distinct member ids below the group order the routine
    returns the Lagrange coefficient at 0 of node i within the node set -/
theorem generic_is_lagrangeAtZero (i : Nat) (s : List Nat) (hn : s.Nodup) (hlt : ∀ j ∈ s, j < N) (hi : i < N) :
    ((generic i s : ℕ) : ZMod N) = Frost.lagrangeAtZero (s.toFinset.image (Nat.cast : ℕ → ZMod N)) (i : ZMod N) := by
  rw [generic_spec i s (fun j hj hne h0 => hne (cast_inj_lt (hlt j hj) hi (sub_eq_zero.mp h0))),
    prod_eq_lagrangeAtZero i s hn hlt hi]

end BandVerif.Lagrange
