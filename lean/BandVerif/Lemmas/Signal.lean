/- Lemmas for C07 over Model/Signal.lean: MsgVote characterised once (`vote_cases`), the int64 totals as true sums of the
   standing votes (`applyDiffs_spec`, `sumVotes_replace`, `applyDiffs_of_inv`), the interval function, the current-feed list. -/
import BandVerif.Model.Signal
import BandVerif.Common.Guarded
import BandVerif.Common.ListFacts
import BandVerif.Common.ListSum

namespace BandVerif.Signal
open BandVerif.Generated

theorem inv_empty : Inv State.empty := by
  refine ⟨List.nodup_nil, fun _ _ => rfl, fun id => ?_, fun v s hs => ?_⟩
  · simp [State.empty, sumVotes]
  · simp [State.empty] at hs

/-- one walk through ValidateBasic: it never returns the error of the totals, and accepts positive powers only -/
theorem validateBasic_spec : ∀ (l : List Sig) (seen : List String),
    validateBasic l seen ≠ Err.powerNegative ∧ (validateBasic l seen = Err.ok → ∀ s ∈ l, 0 < s.power)
  | [], _ => ⟨nofun, fun _ _ hs => nomatch hs⟩
  | x :: rest, seen => by
    unfold validateBasic
    split; · exact ⟨nofun, nofun⟩
    split; · exact ⟨nofun, nofun⟩
    split; · exact ⟨nofun, nofun⟩
    split; · exact ⟨nofun, nofun⟩
    have ih := validateBasic_spec rest (x.id :: seen)
    exact ⟨ih.1, fun h s hs => (List.mem_cons.mp hs).elim (fun e => e ▸ by omega) (ih.2 h s)⟩

/-- the same for all the checks before the totals are touched, with what they establish when they pass -/
theorem preErr_spec (p : Params) (signals : List Sig) (tp : Int) :
    preErr p signals tp ≠ Err.powerNegative ∧ (preErr p signals tp = Err.ok →
      (∀ s ∈ signals, 0 < s.power) ∧ signals.length ≤ p.maxCurrentFeeds ∧ lockOf signals ≤ tp) := by
  unfold preErr
  split
  · rename_i hv
    split; · exact ⟨nofun, nofun⟩
    split; · exact ⟨nofun, nofun⟩
    split; · exact ⟨nofun, nofun⟩
    exact ⟨nofun, fun _ => ⟨(validateBasic_spec _ _).2 hv, by omega, by omega⟩⟩
  · -- any other outcome of ValidateBasic is returned as it is
    rename_i hne; exact ⟨(validateBasic_spec signals []).1, fun h => absurd h hne⟩

theorem vote_cases (p : Params) (st : State) (voter : Nat) (signals : List Sig) (tp : Int) :
    Guarded .ok st (vote p st voter signals tp) fun st' =>
      (∀ s ∈ signals, 0 < s.power) ∧ signals.length ≤ p.maxCurrentFeeds ∧ lockOf signals ≤ tp ∧
      ∃ t, applyDiffs (st.votes voter) signals (touched (st.votes voter) signals) st.totals = some t ∧
        st' = commit st voter signals t := by
  unfold vote
  split
  · rename_i hp
    obtain ⟨hpos, hlen, hle⟩ := (preErr_spec p signals tp).2 hp
    split
    · exact .reject nofun
    · rename_i t ha; exact .accept ⟨hpos, hlen, hle, t, ha, rfl⟩
  · rename_i e hne; exact .reject fun h => hne (h ▸ rfl)

theorem wrap_add_wrap (a b : Int) : i64.wrap (i64.wrap a + b) = i64.wrap (a + b) := by
  unfold i64.wrap; omega
theorem wrap_add_wrap_right (a b : Int) : i64.wrap (a + i64.wrap b) = i64.wrap (a + b) := by
  unfold i64.wrap; omega
/-- `+=` (`c = 1`) and `-=` (`c = -1`) of the powers of `l` in int64: wrapping at every step is wrapping once at the end -/
theorem foldl_wrap (op : Int → Int → Int) (c : Int) (hop : ∀ a b, op a b = i64.wrap (a + c * b)) (l : List Sig) (d : Int) :
    l.foldl (fun a s => op a s.power) (i64.wrap d) = i64.wrap (d + c * (l.map (·.power)).sum) := by
  induction l generalizing d with
  | nil => simp
  | cons x xs ih => rw [List.foldl_cons, hop, wrap_add_wrap, ih, List.map_cons, List.sum_cons, Int.mul_add, Int.add_assoc]

theorem diff64_eq (old new : List Sig) (id : String) :
    diff64 old new id = i64.wrap (powerIn new id - powerIn old id) := by
  unfold diff64 powerIn
  have h0 : (0 : Int) = i64.wrap 0 := by decide
  rw [h0, foldl_wrap i64.sub (-1) (fun a b => congrArg i64.wrap (by omega)),
    foldl_wrap i64.add 1 (fun a b => congrArg i64.wrap (by omega))]
  congr 1; omega

theorem insertNew_nodup (l : List String) (x : String) (h : l.Nodup) : (insertNew l x).Nodup := nodup_ite_concat x h

theorem mem_insertNew (l : List String) (x y : String) : y ∈ insertNew l x ↔ y ∈ l ∨ y = x := mem_ite_concat l x y

theorem foldl_insertNew_nodup (l : List Sig) (acc : List String) (h : acc.Nodup) :
    (l.foldl (fun acc s => insertNew acc s.id) acc).Nodup :=
  List.foldlRecOn l _ h fun acc ih s _ => insertNew_nodup acc s.id ih

theorem mem_foldl_insertNew (l : List Sig) (acc : List String) (y : String) :
    y ∈ l.foldl (fun acc s => insertNew acc s.id) acc ↔ y ∈ acc ∨ ∃ s ∈ l, s.id = y := by
  induction l generalizing acc with
  | nil => simp
  | cons x xs ih => simp only [List.foldl, ih, mem_insertNew, List.mem_cons, exists_eq_or_imp, or_assoc, @eq_comm _ y]

theorem touched_nodup (old new : List Sig) : (touched old new).Nodup := by
  unfold touched
  exact (List.mergeSort_perm _ _).nodup_iff.mpr (foldl_insertNew_nodup _ _ List.nodup_nil)

theorem mem_touched (old new : List Sig) (y : String) :
    y ∈ touched old new ↔ ∃ s ∈ old ++ new, s.id = y := by
  unfold touched
  rw [(List.mergeSort_perm _ _).mem_iff, mem_foldl_insertNew]; simp

theorem powerIn_of_not_mem (l : List Sig) (id : String) (h : ¬ ∃ s ∈ l, s.id = id) : powerIn l id = 0 := by
  unfold powerIn
  rw [List.filter_eq_nil_iff.mpr fun s hs e => h ⟨s, hs, of_decide_eq_true e⟩]; rfl

theorem applyDiffs_spec (old new : List Sig) (ids : List String) (t : String → Int) (hn : ids.Nodup)
    (hb : ∀ id ∈ ids, 0 ≤ t id + (powerIn new id - powerIn old id) ∧
                       t id + (powerIn new id - powerIn old id) < 9223372036854775808) :
    ∃ t', applyDiffs old new ids t = some t' ∧
      ∀ id, t' id = if id ∈ ids then t id + (powerIn new id - powerIn old id) else t id := by
  induction ids generalizing t with
  | nil => exact ⟨t, rfl, by simp⟩
  | cons x xs ih =>
    have hx := hb x (List.mem_cons_self ..)
    have hv : i64.add (t x) (diff64 old new x) = t x + (powerIn new x - powerIn old x) := by
      rw [diff64_eq]; unfold i64.add; rw [wrap_add_wrap_right]; exact i64.wrap_of_inRange ⟨by omega, hx.2⟩
    have hnx : x ∉ xs := (List.nodup_cons.mp hn).1
    unfold applyDiffs
    simp only [hv]
    rw [if_neg (by omega)]
    obtain ⟨t', h1, h2⟩ := ih (fun y => if y = x then t x + (powerIn new x - powerIn old x) else t y)
      (List.nodup_cons.mp hn).2 (by
        intro id hid
        have : id ≠ x := fun e => hnx (e ▸ hid)
        simp only [this, if_false]
        exact hb id (List.mem_cons_of_mem _ hid))
    refine ⟨t', h1, fun id => ?_⟩
    rw [h2 id]
    by_cases hix : id = x
    · subst hix; simp [hnx]
    · by_cases hm : id ∈ xs <;> simp [hix, hm]

theorem powerIn_nonneg (l : List Sig) (id : String) (h : ∀ s ∈ l, 0 < s.power) : 0 ≤ powerIn l id :=
  sum_map_nonneg _ _ fun s hs => Int.le_of_lt (h s (List.mem_filter.mp hs).1)

theorem sumVotes_nonneg (voters : List Nat) (votes : Nat → List Sig) (id : String)
    (h : ∀ v, ∀ s ∈ votes v, 0 < s.power) : 0 ≤ sumVotes voters votes id :=
  sum_map_nonneg _ _ fun v _ => powerIn_nonneg (votes v) id (h v)

theorem pos_after {votes : Nat → List Sig} {voter : Nat} {signals : List Sig} (hp : ∀ v, ∀ s ∈ votes v, 0 < s.power)
    (hpos : ∀ s ∈ signals, 0 < s.power) (v : Nat) : ∀ s ∈ (if v = voter then signals else votes v), 0 < s.power := by
  split
  · exact hpos
  · exact hp v

/-- the true sum of the standing votes for `id` once `voter`'s vote is replaced by `signals` (the voter list and the votes
    are those `commit` writes) -/
def sumAfter (st : State) (voter : Nat) (signals : List Sig) (id : String) : Int :=
  sumVotes (if voter ∈ st.voters then st.voters else st.voters ++ [voter])
    (fun v => if v = voter then signals else st.votes v) id

theorem sumVotes_replace (st : State) (voter : Nat) (signals : List Sig) (id : String) (hinv : Inv st) :
    sumAfter st voter signals id
    = st.totals id + (powerIn signals id - powerIn (st.votes voter) id) := by
  obtain ⟨hn, habs, htot, _⟩ := hinv
  rw [htot id]
  unfold sumAfter sumVotes
  have off : ∀ v ∈ st.voters, v ≠ voter → powerIn (if v = voter then signals else st.votes v) id = powerIn (st.votes v) id :=
    fun v _ h => by rw [if_neg h]
  split
  · rename_i hm
    rw [sum_map_update _ (fun v => powerIn (st.votes v) id) _ voter hn hm off, if_pos rfl]; omega
  · -- a new voter: one more summand, and the old vote is empty
    rename_i hm
    rw [List.map_append, List.map_congr_left fun v hv => off v hv fun e => hm (e ▸ hv), habs voter hm]
    simp [powerIn]

/-- under the invariant and the bound the diffs apply, and the totals they give are the true sums after the vote: committing
    it keeps the invariant -/
theorem applyDiffs_of_inv (st : State) (voter : Nat) (signals : List Sig) (hinv : Inv st)
    (hpos : ∀ s ∈ signals, 0 < s.power)
    (hb : ∀ id, sumAfter st voter signals id < 9223372036854775808) :
    ∃ t', applyDiffs (st.votes voter) signals (touched (st.votes voter) signals) st.totals = some t' ∧
      Inv (commit st voter signals t') := by
  obtain ⟨t', h1, h2⟩ := applyDiffs_spec (st.votes voter) signals _ st.totals (touched_nodup _ _) (by
    intro id _
    rw [← sumVotes_replace st voter signals id hinv]
    exact ⟨sumVotes_nonneg _ _ id (pos_after hinv.2.2.2 hpos), hb id⟩)
  refine ⟨t', h1, nodup_ite_concat voter hinv.1, fun v hv => ?_, fun id => ?_, pos_after hinv.2.2.2 hpos⟩
  · have hv := mt (mem_ite_concat st.voters voter v).mpr hv
    exact (if_neg fun e => hv (.inr e)).trans (hinv.2.1 v fun h => hv (.inl h))
  · show t' id = sumAfter st voter signals id
    rw [h2 id, sumVotes_replace st voter signals id hinv]
    split
    · rfl
    · -- an id that neither vote mentions keeps its total
      rename_i hm
      have hno : ¬ ∃ s ∈ st.votes voter ++ signals, s.id = id := fun h => hm ((mem_touched _ _ _).mpr h)
      have h1 : powerIn signals id = 0 := powerIn_of_not_mem _ _ (fun ⟨s, hs, e⟩ => hno ⟨s, List.mem_append_right _ hs, e⟩)
      have h2 : powerIn (st.votes voter) id = 0 := powerIn_of_not_mem _ _ (fun ⟨s, hs, e⟩ => hno ⟨s, List.mem_append_left _ hs, e⟩)
      omega

theorem runVotes_snoc (p : Params) (st : State) (ops : List (Nat × List Sig × Int)) (o : Nat × List Sig × Int) :
    runVotes p st (ops ++ [o]) = (vote p (runVotes p st ops) o.1 o.2.1 o.2.2).1 := by
  simp [runVotes, List.foldl_append]

theorem i64_div_nonneg (a b : Int) (ha : 0 ≤ a) (har : a < 9223372036854775808) (hb : 0 < b) :
    i64.div a b = a / b := by
  unfold i64.div
  rw [Int.tdiv_eq_ediv_of_nonneg ha]
  have h1 : 0 ≤ a / b := Int.ediv_nonneg ha (by omega)
  have h2 : a / b ≤ a := Int.ediv_le_self b ha
  exact i64.wrap_of_inRange ⟨by omega, by omega⟩

theorem calculateInterval_eq (power step minI maxI : Int) (hs : 0 < step) (hp : step ≤ power)
    (hr : power < 9223372036854775808) (hmax : 0 < maxI) (hmaxr : maxI < 9223372036854775808) :
    Feeds.calculateInterval power step minI maxI = max (maxI / (power / step)) minI ∧ 1 ≤ power / step := by
  have hq : 1 ≤ power / step := Int.le_ediv_of_mul_le hs (by omega)
  unfold Feeds.calculateInterval
  simp only []
  rw [if_neg (by omega), i64_div_nonneg power step (by omega) hr hs, i64_div_nonneg maxI _ (by omega) hmaxr (by omega)]
  exact ⟨rfl, hq⟩

theorem ediv_antitone (a q1 q2 : Int) (ha : 0 ≤ a) (h1 : 1 ≤ q1) (h12 : q1 ≤ q2) : a / q2 ≤ a / q1 := by
  have hx : 0 ≤ a / q2 := Int.ediv_nonneg ha (by omega)
  apply (Int.le_ediv_iff_mul_le (by omega)).mpr
  calc a / q2 * q1 ≤ a / q2 * q2 := Int.mul_le_mul_of_nonneg_left h12 hx
    _ ≤ a := Int.ediv_mul_le a (by omega)

theorem interval_antitone (p1 p2 step minI maxI : Int) (hs : 0 < step) (h1 : step ≤ p1) (h12 : p1 ≤ p2)
    (hr : p2 < 9223372036854775808) (hmin : 0 < minI) (hmax : 0 < maxI) (hmaxr : maxI < 9223372036854775808) :
    Feeds.calculateInterval p2 step minI maxI ≤ Feeds.calculateInterval p1 step minI maxI := by
  obtain ⟨e1, q1⟩ := calculateInterval_eq p1 step minI maxI hs h1 (by omega) hmax hmaxr
  obtain ⟨e2, _⟩ := calculateInterval_eq p2 step minI maxI hs (by omega) hr hmax hmaxr
  have hq : p1 / step ≤ p2 / step := Int.ediv_le_ediv hs h12
  have := ediv_antitone maxI _ _ (by omega) q1 hq
  rw [e1, e2]; omega

theorem mem_entries (st : State) (e : Int × String) (h : e ∈ entries st) : st.totals e.2 = e.1 := by
  unfold entries at h
  obtain ⟨id, _, rfl⟩ := List.mem_map.mp h
  rfl

theorem calculateInterval_pos_iff (power step minI maxI : Int) (hs : 0 < step) (hr : power < 9223372036854775808)
    (hmin : 0 < minI) (hmax : 0 < maxI) (hmaxr : maxI < 9223372036854775808) :
    Feeds.calculateInterval power step minI maxI > 0 ↔ step ≤ power := by
  constructor
  · intro h
    refine Int.not_lt.mp fun hlt => ?_
    have : Feeds.calculateInterval power step minI maxI = 0 := by simp [Feeds.calculateInterval, hlt]
    omega
  · intro hp
    rw [(calculateInterval_eq power step minI maxI hs hp hr hmax hmaxr).1]; omega

/-- the current feeds are the entries of the first `maxCurrentFeeds` index positions that reach the step, with their intervals -/
theorem newCurrentFeeds_eq (p : Params) (st : State) (hs : 0 < p.powerStep) (hmin : 0 < p.minInterval)
    (hmax : 0 < p.maxInterval) (hmaxr : p.maxInterval < 9223372036854775808) (hr : ∀ id, st.totals id < 9223372036854775808) :
    newCurrentFeeds p st = (((byPowerDesc st).take p.maxCurrentFeeds).filter fun e => decide (p.powerStep ≤ e.1)).map fun e =>
      { id := e.2, power := e.1, interval := Feeds.calculateInterval e.1 p.powerStep p.minInterval p.maxInterval } := by
  unfold newCurrentFeeds
  generalize hl : (byPowerDesc st).take p.maxCurrentFeeds = l
  have hrl : ∀ e ∈ l, e.1 < 9223372036854775808 := fun e he => by
    have := (List.mergeSort_perm _ _).mem_iff.mp (List.mem_of_mem_take (hl ▸ he))
    rw [← mem_entries st e this]; exact hr _
  clear hl
  induction l with
  | nil => rfl
  | cons x xs ih =>
    have hx := calculateInterval_pos_iff x.1 p.powerStep p.minInterval p.maxInterval hs (hrl x (List.mem_cons_self ..)) hmin hmax hmaxr
    rw [List.filterMap_cons, List.filter_cons, ih fun e he => hrl e (List.mem_cons_of_mem _ he)]
    by_cases h : p.powerStep ≤ x.1
    · simp only [hx.mpr h, h, decide_true, if_true, List.map_cons]
    · simp only [mt hx.mp h, h, if_false]; rfl

end BandVerif.Signal
