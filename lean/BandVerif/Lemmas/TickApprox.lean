/- C11: for EVERY uint64 price the logarithm approximation of PriceToTick is within one tick of the truth, hence
   PriceToTick returns the largest tick whose price does not exceed the input (no hypothesis left). -/
import BandVerif.Lemmas.TickEval.S0
import BandVerif.Lemmas.TickEval.S1
import BandVerif.Lemmas.TickEval.S2
import BandVerif.Lemmas.TickEval.S3
import BandVerif.Lemmas.TickEval.S4
import BandVerif.Lemmas.TickEval.S5
import BandVerif.Lemmas.TickEval.S6
import BandVerif.Lemmas.TickEval.S7
import BandVerif.Lemmas.TickEval.P
import BandVerif.Lemmas.TickSweep
import BandVerif.Lemmas.Tick

namespace BandVerif.Tick

theorem sweep_table : sweep Generated.Tick.priceX96AtBinaryTicks 1 0 q96 = true :=
  sweep_split 4 _ 1 0 q96 fun low h => by
    rw [Nat.one_mul, Nat.one_mul, Nat.zero_add]
    exact match low, h with
    | 0, _ => subtree_0
    | 1, _ => subtree_1
    | 2, _ => subtree_2
    | 3, _ => subtree_3
    | 4, _ => subtree_4
    | 5, _ => subtree_5
    | 6, _ => subtree_6
    | 7, _ => subtree_7
    | 8, _ => subtree_8
    | 9, _ => subtree_9
    | 10, _ => subtree_10
    | 11, _ => subtree_11
    | 12, _ => subtree_12
    | 13, _ => subtree_13
    | 14, _ => subtree_14
    | 15, _ => subtree_15
    | _ + 16, h => absurd h (by omega)

theorem tickOK_all (t : Int) (h1 : tcut ≤ t) (h2 : t ≤ thi) : TickOK t := by
  unfold tcut at h1; unfold thi at h2
  have key : ∀ a : Nat, a < 2 ^ 18 → leafChk a (ratio a) = true := fun a ha => by
    have := sweep_sound _ 1 0 q96 sweep_table a ha
    rwa [Nat.zero_add, Nat.one_mul, ← Nat.shiftRight_zero (n := a), ← ratioGo_eq_bits] at this
  by_cases ht : t ≤ 0
  · have := (leafChk_sound t.natAbs (key _ (by omega))).1 (by omega)
    rwa [show -(t.natAbs : Int) = t by omega] at this
  · have := (leafChk_sound t.natAbs (key _ (by omega))).2 (by omega) (by omega)
    rwa [show (t.natAbs : Int) = t by omega] at this

theorem exists_seg (f : Nat → Nat) (n y : Nat) (h0 : f 0 ≤ y) (hn : y < f n) : ∃ i, i < n ∧ f i ≤ y ∧ y < f (i + 1) := by
  induction n with
  | zero => omega
  | succ n ih =>
    by_cases c : y < f n
    · obtain ⟨i, hi, a, b⟩ := ih c
      exact ⟨i, by omega, a, b⟩
    · exact ⟨n, by omega, by omega, hn⟩

theorem x96_tlo : 0 < x96 tlo ∧ x96 tlo ≤ q96 := by decide +kernel
theorem x96_tcut : x96 tcut ≤ 1000 * q96 := by decide +kernel
theorem x96_thi : x96 thi ≤ maxUint64 * q96 ∧ two64 * q96 ≤ x96 (thi + 1) := by decide +kernel
theorem approx_top : approxTick maxUint64 ≤ thi + 1 := by decide +kernel

theorem true_tick_exists (p : Nat) (h1 : 1 ≤ p) (h2 : p < 2 ^ 64) :
    ∃ T : Int, tlo ≤ T ∧ T ≤ thi ∧ x96 T ≤ p * q96 ∧ p * q96 < x96 (T + 1) := by
  -- 443638 = thi + 1 − tlo
  have a : x96 (tlo + ((0 : Nat) : Int)) ≤ p * q96 :=
    Nat.le_trans x96_tlo.2 (Nat.le_mul_of_pos_left _ h1)
  have b : p * q96 < x96 (tlo + ((443638 : Nat) : Int)) :=
    Nat.lt_of_lt_of_le (Nat.mul_lt_mul_of_pos_right (show p < two64 from h2) (by decide)) x96_thi.2
  obtain ⟨i, hi, c, d⟩ := exists_seg (fun i => x96 (tlo + (i : Int))) 443638 (p * q96) a b
  exact ⟨tlo + i, by omega, by unfold tlo thi; omega, c, by rwa [Int.natCast_succ, ← Int.add_assoc] at d⟩

theorem approxOK_low (p : Nat) (h1 : 1 ≤ p) (h2 : p ≤ 1000) : approxOK p = true := by
  have := List.all_eq_true.mp approxOK_upto (p - 1) (List.mem_range.mpr (by omega))
  rwa [Nat.sub_add_cancel h1] at this

/-- what `approxOK` says of a price whose true tick is `T`: the approximation is within one tick of `T` -/
theorem approxOK_iff (p : Nat) (T : Int) (hT1 : tlo ≤ T) (hT2 : T ≤ thi) (hle : x96 T ≤ p * q96) (hlt : p * q96 < x96 (T + 1)) :
    approxOK p = true ↔ T - 1 ≤ approxTick p ∧ approxTick p ≤ T + 1 := by
  unfold tlo at hT1; unfold thi at hT2
  have hinT : inRange T = true := (inRange_iff _).mpr (by omega)
  have hinT1 : inRange (T + 1) = true := (inRange_iff _).mpr (by omega)
  simp only [approxOK, Bool.and_eq_true, Bool.or_eq_true, Bool.not_eq_true', decide_eq_true_eq, leX96_iff]
  constructor
  · rintro ⟨⟨hin, hup⟩, hlow⟩
    have hin' := (inRange_iff _).mp hin
    constructor
    · -- two ticks above the approximation the price is passed, so `T` is not there
      refine Int.not_lt.mp fun c => ?_
      have hin2 : inRange (approxTick p + 2) = true := (inRange_iff _).mpr (by omega)
      have := Nat.le_trans (x96_mono_le _ T hin2 hinT (by omega)) hle
      exact hup.elim (fun h => Bool.noConfusion (hin2.symm.trans h)) (by omega)
    · -- one of the three ticks around the approximation is at or below the price, so it is at most `T`
      have key := (isLargest_of_next p T hinT hle fun _ => hlt).2.2
      rcases hlow with (h | h) | h
      · have := key _ h.1 h.2; omega
      · have := key _ h.1 h.2; omega
      · have := key _ h.1 h.2; omega
  · rintro ⟨a1, a2⟩
    refine ⟨⟨(inRange_iff _).mpr (by omega), ?_⟩, ?_⟩
    · by_cases c : inRange (approxTick p + 2) = true
      · exact .inr (Nat.lt_of_lt_of_le hlt (x96_mono_le _ _ hinT1 c (by omega)))
      · exact .inl (by simpa using c)
    · have hin : inRange (approxTick p - 1) = true := (inRange_iff _).mpr (by omega)
      exact .inr ⟨hin, Nat.le_trans (x96_mono_le _ _ hin hinT (by omega)) hle⟩

/-- the approximation is within one tick of the true tick, for every uint64 price.  Up to price 1000 every price is looked at;
    above, by monotonicity it is enough to look at the first price of every tick segment and at the price just below it, which
    `tickOK_all` has done -/
theorem approx_within_one (p : Nat) (h1 : 1 ≤ p) (h2 : p < 2 ^ 64) :
    ∃ T : Int, tlo ≤ T ∧ T ≤ thi ∧ x96 T ≤ p * q96 ∧ p * q96 < x96 (T + 1) ∧ T - 1 ≤ approxTick p ∧ approxTick p ≤ T + 1 := by
  obtain ⟨T, hT1, hT2, hle, hlt⟩ := true_tick_exists p h1 h2
  refine ⟨T, hT1, hT2, hle, hlt, ?_⟩
  by_cases hp : p ≤ 1000
  · exact (approxOK_iff p T hT1 hT2 hle hlt).mp (approxOK_low p h1 hp)
  unfold tlo at hT1; unfold thi at hT2
  have hq : 0 < q96 := by decide
  have hin : ∀ t, -207244 ≤ t → t ≤ 236393 → inRange t = true := fun t a b => (inRange_iff t).mpr (by omega)
  -- the price is above 1000, so its tick is not below that of 1000
  have hcut : -138163 ≤ T := Int.not_lt.mp fun c => by
    have := x96_mono_le (T + 1) tcut (hin _ (by omega) (by omega)) (by decide) (by unfold tcut; omega)
    have := Nat.mul_lt_mul_of_pos_right (show 1000 < p by omega) hq
    have := x96_tcut
    omega
  -- `loP t ≤ p ↔ x96 t ≤ p * q96`
  have lo_le : loP T ≤ p := by
    have : (x96 T + q96 - 1) / q96 < p + 1 := (Nat.div_lt_iff_lt_mul hq).mpr (by rw [Nat.add_mul]; omega)
    unfold loP; omega
  have lt_lo : p + 1 ≤ loP (T + 1) := (Nat.le_div_iff_mul_le hq).mpr (by rw [Nat.add_mul]; omega)
  -- the prices of the ticks from `tlo` on are positive
  have pos := Nat.lt_of_lt_of_le x96_tlo.1 (x96_mono_le tlo T (by decide) (hin T hT1 hT2) hT1)
  have l1 : 1 ≤ loP T := (Nat.le_div_iff_mul_le hq).mpr (by omega)
  refine ⟨Int.le_trans (tickOK_all T hcut hT2 l1 (by omega)).1 (approxTick_mono _ p l1 lo_le h2), ?_⟩
  -- the last price of the segment is the one below `loP (T + 1)`; for the top tick that price would pass 2⁶⁴, there 2⁶⁴ − 1 is looked at
  by_cases hT : T = 236393
  · exact hT ▸ Int.le_trans (approxTick_mono p _ h1 (by unfold maxUint64; omega) (by decide)) approx_top
  · have hT3 : T + 1 ≤ thi := by unfold thi; omega
    have := Nat.le_trans (x96_mono_le (T + 1) thi (hin _ (by omega) hT3) (by decide) hT3) x96_thi.1
    have u2 : loP (T + 1) < 2 ^ 64 := (Nat.div_lt_iff_lt_mul hq).mpr (by unfold maxUint64 at this; omega)
    exact Int.le_trans (approxTick_mono p _ h1 (by omega) (by omega))
      ((tickOK_all (T + 1) (by unfold tcut; omega) hT3 (by omega) u2).2 (by omega))

theorem approxOK_all (p : Nat) (h1 : 1 ≤ p) (h2 : p < 2 ^ 64) : approxOK p = true := by
  obtain ⟨T, hT1, hT2, hle, hlt, a⟩ := approx_within_one p h1 h2
  exact (approxOK_iff p T hT1 hT2 hle hlt).mpr a

theorem priceToTick_total (p : Nat) (h1 : 1 ≤ p) (h2 : p < 2 ^ 64) : ∃ r, priceToTick p = some r := by
  obtain ⟨T, hT1, hT2, _, _, a1, a2⟩ := approx_within_one p h1 h2
  unfold tlo at hT1; unfold thi at hT2
  unfold priceToTick
  rw [if_neg (by omega)]
  simp only []
  rw [if_neg (by unfold maxTick minTick; omega)]
  split
  · exact ⟨_, rfl⟩
  · split
    · exact ⟨_, rfl⟩
    · exact ⟨_, rfl⟩

theorem priceToTick_largest (p : Nat) (r : Int) (h1 : 1 ≤ p) (h2 : p < 2 ^ 64) (h : priceToTick p = some r) :
    IsLargest p (r - offset) := priceToTick_largest_partial p r (approxOK_all p h1 h2) h

end BandVerif.Tick
