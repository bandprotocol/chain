/- C10 liveness: every signing reaches SUCCESS or FALLEN within a computable number of blocks.
   The liveness invariant `Live`; what an operation does to the expiry FIFO (`QExt` for a request and for the retries,
   `EndBlockShape` for a whole end-block); the run invariant `G` and the progress measure `Prog` of one signing with their
   preservation by a request and by an end-block; `prog_init` / `prog_final` start and read off the measure.
   `Props/C10.lean` runs them over histories. -/
import BandVerif.Lemmas.SigningHist

namespace BandVerif.Signing

/-- expiry height of a scheduled entry (0 when the attempt record is missing: unreachable under `HInv`) -/
def expOf (s : State) (x : Nat × Nat) : Int := ((s.attempts x.1 x.2).map (·.expiredHeight)).getD 0

/-- the FIFO entries that the expiry pass has to get through before (and including) the entry of signing `sid` -/
def upto (sid : Nat) : List (Nat × Nat) → List (Nat × Nat)
  | [] => []
  | x :: r => if x.1 = sid then [x] else x :: upto sid r

/-- liveness invariant: a WAITING signing always has its current attempt scheduled for expiry, and every stored attempt has
    a non-empty committee (so "all assigned members submitted" is never vacuously true) -/
structure Live (s : State) : Prop where
  l1 : ∀ sid sg, s.signings sid = some sg → sg.status = stWaiting → (sid, sg.attempt) ∈ s.expirations
  l2 : ∀ sid att atm, s.attempts sid att = some atm → atm.assigned ≠ []

theorem upto_subset (sid : Nat) (l : List (Nat × Nat)) : upto sid l ⊆ l := by
  fun_induction upto sid l with
  | case1 => exact fun _ h => h
  | case2 x r _ => exact fun y hy => List.mem_singleton.mp hy ▸ List.mem_cons_self ..
  | case3 x r _ ih => exact List.cons_subset_cons x ih

theorem upto_append_of_mem (sid : Nat) (l extra : List (Nat × Nat)) (h : sid ∈ l.map (·.1)) :
    upto sid (l ++ extra) = upto sid l := by
  fun_induction upto sid l with
  | case1 => cases h
  | case2 x r e => exact if_pos e
  | case3 x r e ih => rw [List.cons_append, upto, if_neg e, ih ((List.mem_cons.mp h).resolve_left (Ne.symm e))]

theorem upto_append_left {sid : Nat} {pre : List (Nat × Nat)} (h : ∀ y ∈ pre, y.1 ≠ sid) (l : List (Nat × Nat)) :
    upto sid (pre ++ l) = pre ++ upto sid l := by
  induction pre with
  | nil => rfl
  | cons y r ih => rw [List.cons_append, upto, if_neg (h y (List.mem_cons_self ..)), ih fun z hz => h z (List.mem_cons_of_mem _ hz)]; rfl

/-- dropping a consumed prefix that does not contain the entry of the signing only shortens the way to it -/
theorem upto_drop_subset {l : List (Nat × Nat)} {x : Nat × Nat} (hn : (l.map (·.1)).Nodup) (k : Nat) (hx : x ∈ l.drop k) :
    upto x.1 (l.drop k) ⊆ upto x.1 l := by
  have := upto_append_left (sid := x.1) (pre := l.take k)
    (fun y hy e => take_drop_disjoint (·.1) l k hn _ (List.mem_map_of_mem hy) (e ▸ List.mem_map_of_mem hx)) (l.drop k)
  rw [List.take_append_drop] at this
  rw [this]; exact List.subset_append_right ..

theorem mem_takeWhile_of_upto {p : Nat × Nat → Bool} {l : List (Nat × Nat)} {x : Nat × Nat} (hn : (l.map (·.1)).Nodup) (hx : x ∈ l)
    (hall : ∀ y ∈ upto x.1 l, p y = true) : x ∈ l.takeWhile p := by
  obtain ⟨pre, post, rfl⟩ := List.append_of_mem hx
  rw [List.map_append] at hn
  rw [upto_append_left fun y hy => (List.nodup_append.mp hn).2.2 _ (List.mem_map_of_mem hy) _ (List.mem_cons_self ..), upto, if_pos rfl] at hall
  rw [List.takeWhile_append_of_pos fun y hy => hall y (List.mem_append_left _ hy),
    List.takeWhile_cons_of_pos (hall x (List.mem_append_right _ (List.mem_singleton_self _)))]
  exact List.mem_append_right _ (List.mem_cons_self ..)

/-- `s'` extends the FIFO of `s` by `extra`, whose attempt records expire at `E`; all other attempt records are as in `s` -/
structure QExt (s s' : State) (extra : List (Nat × Nat)) (E : Int) : Prop where
  exp : s'.expirations = s.expirations ++ extra
  att : ∀ i a, (i, a) ∉ extra → s'.attempts i a = s.attempts i a
  new : ∀ x ∈ extra, ∃ atm, s'.attempts x.1 x.2 = some atm ∧ atm.expiredHeight = E ∧ atm.assigned ≠ []
  per : s'.signingPeriod = s.signingPeriod
  max : s'.maxAttempt = s.maxAttempt

theorem QExt.of_frame (s s' : State) (E : Int) (a : s'.expirations = s.expirations) (b : s'.attempts = s.attempts)
    (c : s'.signingPeriod = s.signingPeriod) (d : s'.maxAttempt = s.maxAttempt) : QExt s s' [] E :=
  ⟨by rw [a]; simp, (fun _ _ _ => by rw [b]), (fun _ h => by cases h), c, d⟩

theorem QExt.trans {s s' s'' : State} {e1 e2 : List (Nat × Nat)} {E : Int} (h1 : QExt s s' e1 E) (h2 : QExt s' s'' e2 E)
    (hd : ∀ x ∈ e1, x ∉ e2) : QExt s s'' (e1 ++ e2) E := by
  refine ⟨by rw [h2.exp, h1.exp, List.append_assoc], ?_, ?_, by rw [h2.per, h1.per], by rw [h2.max, h1.max]⟩
  · intro i a hn
    simp only [List.mem_append, not_or] at hn
    rw [h2.att i a hn.2, h1.att i a hn.1]
  · intro x hx
    rcases List.mem_append.mp hx with h | h
    · obtain ⟨atm, q1, q2, q3⟩ := h1.new x h
      exact ⟨atm, by rw [h2.att x.1 x.2 (hd x h)]; exact q1, q2, q3⟩
    · exact h2.new x h

theorem initiated_qext (s : State) (sid att : Nat) (c : List Nat) (height : Int) (hc : c ≠ []) (hb : headBad s c = false) :
    QExt s (initiated s sid att c height) [(sid, att)] (height + s.signingPeriod) := by
  refine ⟨rfl, fun i a hn => if_neg fun e => hn (List.mem_singleton.mpr (Prod.ext e.1 e.2)), fun x hx => ?_, rfl, rfl⟩
  cases List.mem_singleton.mp hx
  exact ⟨_, if_pos ⟨rfl, rfl⟩, rfl, dequeueAll_ne_nil s c hc hb⟩

/-- one retry: a new attempt is appended, or the signing falls and the FIFO is untouched -/
theorem retryOne_qext (s : State) (sid : Nat) (c : List Nat) (height : Int) (hc : c ≠ []) :
    ∃ e, QExt s (retryOne s sid c height) e (height + s.signingPeriod) ∧ (∀ x ∈ e, x.1 = sid) ∧
      ∀ sg, s.signings sid = some sg →
        ((retryOne s sid c height).signings sid = some { status := stWaiting, attempt := sg.attempt + 1 } ∧
          (sid, sg.attempt + 1) ∈ e ∧ sg.attempt + 1 ≤ s.maxAttempt) ∨
        (retryOne s sid c height).signings sid = some { sg with status := stFallen } := by
  rcases retryOne_cases s sid c height with ⟨sg0, hs0, hmax, hb, -, e⟩ | ⟨sg0, hs0, -, e⟩ | ⟨hn, e⟩ <;> rw [e]
  · refine ⟨_, initiated_qext s sid _ c height hc hb, fun x hx => List.mem_singleton.mp hx ▸ rfl, fun sg hs => ?_⟩
    cases Option.some.inj (hs.symm.trans hs0)
    exact .inl ⟨if_pos rfl, List.mem_singleton_self _, hmax⟩
  · refine ⟨[], QExt.of_frame _ _ _ rfl rfl rfl rfl, nofun, fun sg hs => ?_⟩
    cases Option.some.inj (hs.symm.trans hs0)
    exact .inr (if_pos rfl)
  · exact ⟨[], QExt.of_frame _ _ _ rfl rfl rfl rfl, nofun, fun sg hs => by rw [hs] at hn; cases hn⟩

/-- what the retries of one end-block do: every timed-out signing gets a new scheduled attempt or falls -/
theorem retryAll_struct (committee : Nat → List Nat) (height : Int) (hcne : ∀ i, committee i ≠ []) (l : List Nat) (s : State)
    (hl : l.Nodup) :
    ∃ extra, QExt s (retryAll committee height l s) extra (height + s.signingPeriod) ∧ (∀ x ∈ extra, x.1 ∈ l) ∧
      (∀ t ∈ l, ∀ sg, s.signings t = some sg →
        ((retryAll committee height l s).signings t = some { status := stWaiting, attempt := sg.attempt + 1 } ∧
          (t, sg.attempt + 1) ∈ extra ∧ sg.attempt + 1 ≤ s.maxAttempt) ∨
        (retryAll committee height l s).signings t = some { sg with status := stFallen }) := by
  induction l generalizing s with
  | nil => exact ⟨[], QExt.of_frame s s _ rfl rfl rfl rfl, nofun, nofun⟩
  | cons sid rest ih =>
    have hn := List.nodup_cons.mp hl
    obtain ⟨e1, q1, he1, out⟩ := retryOne_qext s sid (committee sid) height (hcne sid)
    obtain ⟨e2, q2, m2, r2⟩ := ih (retryOne s sid (committee sid) height) hn.2
    rw [retryAll]
    rw [q1.per] at q2
    refine ⟨e1 ++ e2, q1.trans q2 fun x hx hx2 => hn.1 (he1 x hx ▸ m2 x hx2), fun x hx => ?_, fun t ht sg hs => ?_⟩
    · exact (List.mem_append.mp hx).elim (fun h => he1 x h ▸ List.mem_cons_self ..) fun h => List.mem_cons_of_mem _ (m2 x h)
    · rcases List.mem_cons.mp ht with rfl | hr
      · -- the later retries are of other signings
        rw [retryAll_signing_other committee height rest _ t hn.1]
        exact (out sg hs).imp_left fun ⟨a1, a2, a3⟩ => ⟨a1, List.mem_append_left _ a2, a3⟩
      · have hs' := (retryOne_other s sid (committee sid) height fun e => hn.1 (e ▸ hr)).2.trans hs
        exact (r2 t hr sg hs').imp_left fun ⟨a1, a2, a3⟩ => ⟨a1, List.mem_append_right _ a2, q1.max ▸ a3⟩

theorem expireGo_timedout_all (height nowNs : Int) (l : List (Nat × Nat)) (s : State) (acc : List Nat) (n : Nat)
    (hnd : (l.map (·.1)).Nodup) (i a : Nat) (atm : Attempt)
    (hm : (i, a) ∈ l.take ((expireGo height nowNs l s acc n).2.2 - n)) (ha : s.attempts i a = some atm)
    (hinc : (s.partials i a).length ≠ atm.assigned.length) : i ∈ (expireGo height nowNs l s acc n).2.1 := by
  obtain ⟨e1, e2, -, -⟩ := expireGo_core height nowNs l s acc n (List.Pairwise.of_map (·.1) (fun _ _ hab e => hab (e ▸ rfl)) hnd)
  rw [e1, Nat.add_sub_cancel_left, take_length_takeWhile] at hm
  rw [e2]
  exact List.mem_append_right _ (List.mem_map_of_mem (f := (·.1)) (List.mem_filter.mpr ⟨hm, (incomplete_of ha).mpr hinc⟩))

/-- what an end-block at `height` does to the FIFO of `s` and to the signings whose entries it consumes: the first `n` entries
    are consumed, the entries `extra` of the retried signings are appended -/
structure EndBlockShape (s s' : State) (height : Int) (n : Nat) (extra : List (Nat × Nat)) : Prop where
  exp : s'.expirations = s.expirations.drop n ++ extra
  /-- the entries that stay keep their attempt records -/
  kept : ∀ i a, (i, a) ∈ s.expirations.drop n → s'.attempts i a = s.attempts i a
  /-- the new entries have a record that expires a signing period from now, with a non-empty committee -/
  new : ∀ x ∈ extra, ∃ atm, s'.attempts x.1 x.2 = some atm ∧ atm.expiredHeight = height + s.signingPeriod ∧ atm.assigned ≠ []
  /-- a consumed entry of a WAITING signing that is not pending: the signing is retried, with its new entry in `extra`, or falls -/
  retried : ∀ i a sg, (i, a) ∈ s.expirations.take n → s.signings i = some sg → sg.status = stWaiting → i ∉ s.pending →
    (s'.signings i = some { status := stWaiting, attempt := sg.attempt + 1 } ∧ (i, sg.attempt + 1) ∈ extra ∧
      sg.attempt + 1 ≤ s.maxAttempt) ∨ s'.signings i = some { sg with status := stFallen }
  /-- an entry is consumed when it and everything in front of it have expired -/
  reached : ∀ i a, (i, a) ∈ s.expirations → (∀ x ∈ upto i s.expirations, expOf s x ≤ height) → (i, a) ∈ s.expirations.take n
  params : s'.signingPeriod = s.signingPeriod ∧ s'.maxAttempt = s.maxAttempt
  /-- no attempt record appears but those of `extra` -/
  old : ∀ i a atm, s'.attempts i a = some atm → s.attempts i a = some atm ∨ (i, a) ∈ extra
  /-- a signing that is WAITING afterwards: its record is as before and its entry was not consumed, or it was retried and
      the next round is scheduled in `extra` -/
  waiting : ∀ i sg sg', s.signings i = some sg → s'.signings i = some sg' → sg'.status = stWaiting →
    (sg' = sg ∧ (i, sg.attempt) ∈ s.expirations.drop n) ∨
    (sg.status = stWaiting ∧ sg' = { status := stWaiting, attempt := sg.attempt + 1 } ∧ (i, sg.attempt + 1) ∈ extra ∧
      sg.attempt + 1 ≤ s.maxAttempt)

theorem endBlock_shape (s : State) (committee : Nat → List Nat) (height nowNs : Int)
    (hcne : ∀ i, committee i ≠ []) (h : HInv s) (lv : Live s) :
    ∃ n extra, EndBlockShape s (endBlock s committee height nowNs) height n extra := by
  have e := expired_hinv s h height nowNs
  have sgn := endBlock_signing s committee height nowNs h
  have hper : (expd s height nowNs).signingPeriod = s.signingPeriod := expd_frame (·.signingPeriod) (fun _ _ => rfl) ..
  have hmax : (expd s height nowNs).maxAttempt = s.maxAttempt := expd_frame (·.maxAttempt) (fun _ _ => rfl) ..
  rw [endBlock_eq] at sgn ⊢
  generalize expiryPass s height nowNs = r at *
  have rest := mem_drop_not_take s.expirations r.2.2 h.expirations_nodup
  obtain ⟨extra, q, m, rr⟩ := retryAll_struct committee height hcne r.2.1 (expd s height nowNs) e.timedOut_nodup
  have notextra : ∀ {i a}, (i, a) ∈ s.expirations.drop r.2.2 → (i, a) ∉ extra := fun hd hx =>
    e.timedOut_unsched _ (m _ hx) (e.exp ▸ List.mem_map_of_mem (f := (·.1)) hd)
  -- a WAITING signing that is not pending and whose entry is consumed is reported as timed out
  have timedOut : ∀ {i a sg}, (i, a) ∈ s.expirations.take r.2.2 → s.signings i = some sg → sg.status = stWaiting → i ∉ s.pending →
      i ∈ r.2.1 := by
    intro i a sg hta hs hw hp
    obtain ⟨sg0, atm, w1, w2, w3, -⟩ := h.h1 i a (List.mem_of_mem_take hta)
    cases Option.some.inj (hs.symm.trans w1)
    -- the set is incomplete: a complete non-empty one would have made the signing pending
    exact e.timedOut_all (i, a) hta ((incomplete_of w3).mpr fun hcomp =>
      hp (h.h6 i sg atm hs hw (w2 ▸ w3) (lv.l2 i a atm w3) (w2 ▸ hcomp)))
  exact ⟨r.2.2, extra, {
    exp := q.exp.trans (by rw [e.exp])
    kept := fun i a hd => by
      rw [q.att i a (notextra hd)]
      exact e.kept (i, a) (rest _ hd)
    new := fun x hx => by
      obtain ⟨atm, w1, w2, w3⟩ := q.new x hx
      exact ⟨atm, w1, by rw [w2, hper], w3⟩
    retried := fun i a sg hta hs hw hp =>
      (rr i (timedOut hta hs hw hp) sg (e.sig_of_not_pending hs hp)).imp_left fun ⟨y1, y2, y3⟩ => ⟨y1, y2, hmax ▸ y3⟩
    reached := fun i a hm hall => by
      rw [e.taken]
      refine mem_takeWhile_of_upto h.h2 hm fun x hx => ?_
      obtain ⟨sg, atm, w1, -, w3, -⟩ := h.h1 x.1 x.2 (upto_subset i _ hx)
      have := hall x hx
      unfold expOf at this; rw [w3] at this
      exact passes_iff.mpr ⟨sg, atm, w1, w3, this⟩
    params := ⟨q.per.trans hper, q.max.trans hmax⟩
    old := fun i a atm hat => by
      by_cases hx : (i, a) ∈ extra
      · exact .inr hx
      · rw [q.att i a hx] at hat
        by_cases hp : (i, a) ∈ s.expirations.take r.2.2
        · rw [e.cleared (i, a) hp] at hat; cases hat
        · rw [e.kept (i, a) hp] at hat; exact .inl hat
    waiting := fun i sg sg' hs hs' hw' => by
      obtain ⟨sg'', q1, q2⟩ := sgn i sg hs
      cases Option.some.inj (hs'.symm.trans q1)
      rcases q2 with ⟨-, -, rfl⟩ | ⟨hp, hto, rfl⟩ | ⟨hp, hto, hw, -⟩
      · cases hw'
      · -- untouched: its current entry is in the FIFO; had it been consumed, the signing would have timed out
        have hm := lv.l1 i sg' hs hw'
        rw [← List.take_append_drop r.2.2 s.expirations] at hm
        exact .inl ⟨rfl, (List.mem_append.mp hm).resolve_left fun ht => hto (timedOut ht hs hw' hp)⟩
      · rcases rr i hto sg (e.sig_of_not_pending hs hp) with ⟨y1, y2, y3⟩ | y1
        · exact .inr ⟨hw, Option.some.inj (hs'.symm.trans y1), y2, hmax ▸ y3⟩
        · cases Option.some.inj (hs'.symm.trans y1); cases hw' }⟩

/-- `endBlock_shape` spelt out; the seven clauses are, in this order, the first seven fields of `EndBlockShape` -/
theorem endBlock_struct (s : State) (committee : Nat → List Nat) (height nowNs : Int)
    (hcne : ∀ i, committee i ≠ []) (h : HInv s) (lv : Live s) :
    ∃ n extra,
      (endBlock s committee height nowNs).expirations = s.expirations.drop n ++ extra ∧
      (∀ i a, (i, a) ∈ s.expirations.drop n → (endBlock s committee height nowNs).attempts i a = s.attempts i a) ∧
      (∀ x ∈ extra, ∃ atm, (endBlock s committee height nowNs).attempts x.1 x.2 = some atm ∧
        atm.expiredHeight = height + s.signingPeriod ∧ atm.assigned ≠ []) ∧
      (∀ i a sg, (i, a) ∈ s.expirations.take n → s.signings i = some sg → sg.status = stWaiting → i ∉ s.pending →
        ((endBlock s committee height nowNs).signings i = some { status := stWaiting, attempt := sg.attempt + 1 } ∧
          (i, sg.attempt + 1) ∈ extra ∧ sg.attempt + 1 ≤ s.maxAttempt) ∨
        (endBlock s committee height nowNs).signings i = some { sg with status := stFallen }) ∧
      (∀ i a, (i, a) ∈ s.expirations → (∀ x ∈ upto i s.expirations, expOf s x ≤ height) → (i, a) ∈ s.expirations.take n) ∧
      ((endBlock s committee height nowNs).signingPeriod = s.signingPeriod ∧ (endBlock s committee height nowNs).maxAttempt = s.maxAttempt) ∧
      (∀ i a atm, (endBlock s committee height nowNs).attempts i a = some atm → s.attempts i a = some atm ∨ (i, a) ∈ extra) :=
  let ⟨n, extra, sh⟩ := endBlock_shape s committee height nowNs hcne h lv
  ⟨n, extra, sh.exp, sh.kept, sh.new, sh.retried, sh.reached, sh.params, sh.old⟩

/-- a signing request: nothing happens, or the attempt 1 of the next signing id is appended to the FIFO -/
theorem request_qext (s : State) (sender : Nat) (auth : Bool) (limit : Coins) (c : List Nat) (height : Int) (hc : c ≠ []) :
    ((request s sender auth limit c height).1 = s) ∨
    (QExt s (request s sender auth limit c height).1 [(s.count + 1, 1)] (height + s.signingPeriod) ∧
      (request s sender auth limit c height).1.signings (s.count + 1) = some { status := stWaiting, attempt := 1 }) := by
  rcases request_cases s sender auth limit c height with ⟨e, -, he⟩ | ⟨b, e, -, -, -, hb, he⟩ <;> rw [he]
  · exact .inl rfl
  · have q := initiated_qext (fresh { s with bal := b, escrow := e }) (s.count + 1) 1 c height hc hb
    -- `q` is about `fresh { s with bal, escrow }`; its fields are those of `s` only up to unfolding, so they are handed over one by one
    exact .inr ⟨⟨q.exp, q.att, q.new, q.per, q.max⟩, if_pos rfl⟩

/-- the expiry heights stay below `B` when every entry of the new FIFO is an old one with its record, or one of `extra` -/
theorem bnd_of_new {s s' : State} {extra : List (Nat × Nat)} {E B : Int}
    (hexp : ∀ x ∈ s'.expirations, x ∈ extra ∨ (x ∈ s.expirations ∧ s'.attempts x.1 x.2 = s.attempts x.1 x.2))
    (new : ∀ x ∈ extra, ∃ atm, s'.attempts x.1 x.2 = some atm ∧ atm.expiredHeight = E ∧ atm.assigned ≠ [])
    (hb : ∀ x ∈ s.expirations, expOf s x ≤ B) (hE : E ≤ B) : ∀ x ∈ s'.expirations, expOf s' x ≤ B := by
  intro x hx
  rcases hexp x hx with he | ⟨ho, e⟩
  · obtain ⟨atm, w1, w2, _⟩ := new x he
    unfold expOf; rw [w1, Option.map_some, w2]; exact hE
  · unfold expOf; rw [e]; exact hb x ho

/-- what holds of every state of a well-formed run at (last finished) block height `H`: the history invariant, the liveness
    invariant, every scheduled expiry is at most `H + 1 + P`, the parameters stay within `P` / `M`, statuses are the three -/
structure G (P M : Nat) (s : State) (H : Int) : Prop where
  hinv : HInv s
  live : Live s
  bnd : ∀ x ∈ s.expirations, expOf s x ≤ H + 1 + P
  per : s.signingPeriod ≤ P
  mx : s.maxAttempt ≤ M
  rng : ∀ sid sg, s.signings sid = some sg → sg.status = stWaiting ∨ sg.status = stSuccess ∨ sg.status = stFallen

/-- progress measure of signing `sid` towards the deadline `D`: while it is WAITING at attempt `a`, every FIFO entry the
    expiry pass must get through to reach it expires by some `D0`, and `max D0 (H+1) + (M − a)·P ≤ D` -/
def Prog (P M : Nat) (D : Int) (sid : Nat) (s : State) (H : Int) : Prop :=
  ∃ sg, s.signings sid = some sg ∧
    (sg.status = stWaiting → ∃ D0 : Int, (∀ x ∈ upto sid s.expirations, expOf s x ≤ D0) ∧
      max D0 (H + 1) + (((M - sg.attempt : Nat) : Int)) * (P : Int) ≤ D)

theorem G.of_frame {P M : Nat} {s s' : State} {H : Int} (g : G P M s H) (h' : HInv s') (a : s'.signings = s.signings)
    (b : s'.attempts = s.attempts) (c : s'.expirations = s.expirations) (d : s'.signingPeriod ≤ P) (e : s'.maxAttempt ≤ M) : G P M s' H :=
  ⟨h', ⟨a ▸ c ▸ g.live.l1, b ▸ g.live.l2⟩, by unfold expOf; rw [b, c]; exact g.bnd, d, e, a ▸ g.rng⟩

theorem prog_of_frame {P M : Nat} {D : Int} {sid : Nat} {s s' : State} {H : Int} (hp : Prog P M D sid s H) (a : s'.signings = s.signings)
    (b : s'.attempts = s.attempts) (c : s'.expirations = s.expirations) : Prog P M D sid s' H := by
  unfold Prog expOf at *; rw [a, b, c]; exact hp

/-- a bound on the expiry heights on the way to an entry of what is left of the FIFO still holds when other entries are
    appended, the entries that stay keeping their attempt records -/
theorem upto_bound_of_kept {s s' : State} {n : Nat} {extra : List (Nat × Nat)} {x : Nat × Nat} {D0 : Int}
    (hx : x ∈ s.expirations.drop n) (exp : s'.expirations = s.expirations.drop n ++ extra)
    (kept : ∀ y ∈ s.expirations.drop n, s'.attempts y.1 y.2 = s.attempts y.1 y.2)
    (hall : ∀ y ∈ upto x.1 (s.expirations.drop n), expOf s y ≤ D0) : ∀ y ∈ upto x.1 s'.expirations, expOf s' y ≤ D0 := by
  rw [exp, upto_append_of_mem _ _ _ (List.mem_map_of_mem hx)]
  intro y hy
  unfold expOf
  rw [kept y (upto_subset _ _ hy)]
  exact hall y hy

theorem prog_of_qext {P M : Nat} {D : Int} {sid : Nat} {s s' : State} {extra : List (Nat × Nat)} {E H : Int}
    (lv : Live s) (q : QExt s s' extra E) (hd : ∀ x ∈ extra, x ∉ s.expirations)
    (hsig : s'.signings sid = s.signings sid) (hp : Prog P M D sid s H) : Prog P M D sid s' H := by
  obtain ⟨sg, hs, hw⟩ := hp
  refine ⟨sg, by rw [hsig]; exact hs, fun hwait => ?_⟩
  obtain ⟨D0, hall, hle⟩ := hw hwait
  exact ⟨D0, upto_bound_of_kept (n := 0) (lv.l1 sid sg hs hwait) q.exp (fun y hy => q.att _ _ fun he => hd y he hy) hall, hle⟩

theorem g_of_qext {P M : Nat} {s s' : State} {extra : List (Nat × Nat)} {E H : Int} (g : G P M s H) (q : QExt s s' extra E)
    (h' : HInv s') (hE : E ≤ H + 1 + P)
    (hsig : ∀ i sg', s'.signings i = some sg' → s.signings i = some sg' ∨ (sg'.status = stWaiting ∧ (i, sg'.attempt) ∈ extra)) : G P M s' H := by
  have hexp : ∀ x ∈ s'.expirations, x ∈ extra ∨ (x ∈ s.expirations ∧ s'.attempts x.1 x.2 = s.attempts x.1 x.2) := fun x hx =>
    if he : x ∈ extra then .inl he else .inr ⟨(List.mem_append.mp (q.exp ▸ hx)).resolve_right he, q.att _ _ he⟩
  refine ⟨h', ⟨fun i sg' hs hw => ?_, fun i a atm hat => ?_⟩, bnd_of_new hexp q.new g.bnd hE, q.per ▸ g.per, q.max ▸ g.mx,
    fun i sg' hs => (hsig i sg' hs).elim (g.rng i sg') fun h => .inl h.1⟩
  · rw [q.exp]
    exact (hsig i sg' hs).elim (fun h => List.mem_append_left _ (g.live.l1 i sg' h hw)) fun h => List.mem_append_right _ h.2
  · by_cases hx : (i, a) ∈ extra
    · obtain ⟨atm', w1, -, w3⟩ := q.new (i, a) hx
      cases Option.some.inj (hat.symm.trans w1); exact w3
    · exact g.live.l2 i a atm (q.att i a hx ▸ hat)

/-- a signing request keeps the invariant (its height is at most that of the block being built) -/
theorem request_G {P M : Nat} {s : State} {H : Int} (g : G P M s H) (sender : Nat) (auth : Bool) (limit : Coins) (c : List Nat) (height : Int)
    (hc : c.Nodup) (hcne : c ≠ []) (hh : height ≤ H + 1) : G P M (request s sender auth limit c height).1 H := by
  have h' := request_hinv s sender auth limit c height hc g.hinv
  rcases request_qext s sender auth limit c height hcne with e | ⟨q, hsig⟩
  · rw [e]; exact g
  · apply g_of_qext g q h'
    · have := g.per; omega
    · intro i sg' hs
      by_cases hi : i = s.count + 1
      · subst hi
        rw [hsig] at hs; cases hs
        exact Or.inr ⟨rfl, by simp⟩
      · rw [request_signings_other s sender auth limit c height i hi] at hs
        exact Or.inl hs

theorem request_prog {P M : Nat} {D : Int} {sid : Nat} {s : State} {H : Int} (g : G P M s H) (sender : Nat) (auth : Bool) (limit : Coins)
    (c : List Nat) (height : Int) (hcne : c ≠ []) (hp : Prog P M D sid s H) :
    Prog P M D sid (request s sender auth limit c height).1 H := by
  rcases request_qext s sender auth limit c height hcne with e | ⟨q, -⟩
  · rw [e]; exact hp
  · obtain ⟨sg, hs, hw⟩ := hp
    have hle := g.hinv.le_count hs
    refine prog_of_qext g.live q (fun x hx hx2 => ?_) (request_signings_other s sender auth limit c height sid (by omega)) ⟨sg, hs, hw⟩
    cases List.mem_singleton.mp hx
    exact g.hinv.next_unscheduled (List.mem_map_of_mem (f := (·.1)) hx2)

theorem EndBlockShape.bnd {s s' : State} {height B : Int} {n : Nat} {extra : List (Nat × Nat)} (sh : EndBlockShape s s' height n extra)
    (hb : ∀ x ∈ s.expirations, expOf s x ≤ B) (hE : height + s.signingPeriod ≤ B) : ∀ x ∈ s'.expirations, expOf s' x ≤ B :=
  bnd_of_new (fun _ hx => (List.mem_append.mp (sh.exp ▸ hx)).elim
    (fun hd => .inr ⟨List.mem_of_mem_drop hd, sh.kept _ _ hd⟩) .inl) sh.new hb hE

theorem endBlock_G {P M : Nat} {s : State} {H : Int} (g : G P M s H) (committee : Nat → List Nat) (nowNs : Int)
    (hc : ∀ i, (committee i).Nodup) (hcne : ∀ i, committee i ≠ []) : G P M (endBlock s committee (H + 1) nowNs) (H + 1) := by
  have h' := endBlock_hinv s committee (H + 1) nowNs hc g.hinv
  obtain ⟨n, extra, sh⟩ := endBlock_shape s committee (H + 1) nowNs hcne g.hinv g.live
  refine ⟨h', ⟨?_, ?_⟩, ?_, sh.params.1 ▸ g.per, sh.params.2 ▸ g.mx, ?_⟩
  · intro i sg' hs' hw'
    obtain ⟨sg, hs⟩ := endBlock_signing_old s committee (H + 1) nowNs g.hinv hs'
    rw [sh.exp]
    rcases sh.waiting i sg sg' hs hs' hw' with ⟨rfl, hd⟩ | ⟨-, rfl, hx, -⟩
    · exact List.mem_append_left _ hd
    · exact List.mem_append_right _ hx
  · intro i a atm hat
    rcases sh.old i a atm hat with ho | hx
    · exact g.live.l2 i a atm ho
    · obtain ⟨atm', w1, _, w3⟩ := sh.new (i, a) hx
      cases Option.some.inj (hat.symm.trans w1); exact w3
  · have := g.per
    exact sh.bnd (fun x hx => Int.le_trans (g.bnd x hx) (by omega)) (by omega)
  · intro i sg' hs'
    obtain ⟨sg, hs⟩ := endBlock_signing_old s committee (H + 1) nowNs g.hinv hs'
    obtain ⟨sg'', q1, q2⟩ := endBlock_signing s committee (H + 1) nowNs g.hinv i sg hs
    cases Option.some.inj (hs'.symm.trans q1)
    rcases q2 with ⟨_, _, e⟩ | ⟨_, _, e⟩ | ⟨_, _, _, hr⟩
    · subst e; exact .inr (.inl rfl)
    · subst e; exact g.rng i sg' hs
    · exact hr.elim (fun r => .inl r.2) fun r => .inr (.inr r.2)

theorem endBlock_prog {P M : Nat} {D : Int} {sid : Nat} {s : State} {H : Int} (g : G P M s H) (hP : 1 ≤ P)
    (committee : Nat → List Nat) (nowNs : Int) (hcne : ∀ i, committee i ≠ [])
    (hp : Prog P M D sid s H) : Prog P M D sid (endBlock s committee (H + 1) nowNs) (H + 1) := by
  obtain ⟨n, extra, sh⟩ := endBlock_shape s committee (H + 1) nowNs hcne g.hinv g.live
  obtain ⟨sg, hs, hw⟩ := hp
  obtain ⟨sg', q1, -⟩ := endBlock_signing s committee (H + 1) nowNs g.hinv sid sg hs
  refine ⟨sg', q1, fun hw' => ?_⟩
  rcases sh.waiting sid sg sg' hs q1 hw' with ⟨rfl, hdrop⟩ | ⟨hwt, rfl, -, hmx⟩
  · obtain ⟨D0, hall, hle⟩ := hw hw'
    -- the entry was not consumed, so some entry on the way to it had not expired: D0 > H + 1
    have hD0 : H + 1 < D0 := Int.lt_of_not_ge fun hge =>
      mem_drop_not_take _ _ g.hinv.expirations_nodup _ hdrop
        (sh.reached sid sg'.attempt (List.mem_of_mem_drop hdrop) fun x hx => Int.le_trans (hall x hx) hge)
    exact ⟨D0, upto_bound_of_kept hdrop sh.exp (fun y hy => sh.kept _ _ hy)
      (fun y hy => hall y (upto_drop_subset g.hinv.h2 n hdrop hy)), by omega⟩
  · -- retried: the new entry is at the back; everything in the FIFO expires by H + 1 + P
    obtain ⟨D0, _, hle⟩ := hw hwt
    have := g.per
    refine ⟨H + 1 + P, fun x hx => sh.bnd g.bnd (by omega) x (upto_subset sid _ hx), ?_⟩
    have hmx' := g.mx
    have hk : ((M - sg.attempt : Nat) : Int) * (P : Int) = ((M - (sg.attempt + 1) : Nat) : Int) * (P : Int) + (P : Int) := by
      rw [show M - sg.attempt = M - (sg.attempt + 1) + 1 by omega, Int.natCast_add, Int.add_mul]; simp
    show max (H + 1 + ↑P) (H + 1 + 1) + ((M - (sg.attempt + 1) : Nat) : Int) * (P : Int) ≤ D
    omega

theorem prog_final {P M : Nat} {D : Int} {sid : Nat} {s : State} {H : Int} (g : G P M s H) (hp : Prog P M D sid s H) (hD : D ≤ H) :
    ∃ sg, s.signings sid = some sg ∧ (sg.status = stSuccess ∨ sg.status = stFallen) := by
  obtain ⟨sg, hs, hw⟩ := hp
  refine ⟨sg, hs, ?_⟩
  rcases g.rng sid sg hs with h | h | h
  · exfalso
    obtain ⟨D0, _, hle⟩ := hw h
    have : (0 : Int) ≤ ((M - sg.attempt : Nat) : Int) * (P : Int) := Int.mul_nonneg (Int.natCast_nonneg _) (Int.natCast_nonneg _)
    omega
  · exact Or.inl h
  · exact Or.inr h

theorem prog_init {P M : Nat} {sid : Nat} {s : State} {H : Int} (g : G P M s H) (sg : Sig) (hs : s.signings sid = some sg) :
    Prog P M (H + 1 + (((M - sg.attempt : Nat) : Int) + 1) * (P : Int)) sid s H := by
  refine ⟨sg, hs, fun _ => ⟨H + 1 + P, fun x hx => g.bnd x (upto_subset sid _ hx), ?_⟩⟩
  have e : (((M - sg.attempt : Nat) : Int) + 1) * (P : Int) = ((M - sg.attempt : Nat) : Int) * (P : Int) + (P : Int) := by
    rw [Int.add_mul]; simp
  rw [e]
  omega

end BandVerif.Signing
