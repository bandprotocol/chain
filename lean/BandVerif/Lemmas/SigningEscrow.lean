/- C13: the bandtss escrow always covers what is still owed to the signers of open paid signings, so the payout of
   OnSigningCompleted can never exceed the module account's balance — over every history.  Core-only. -/
import BandVerif.Lemmas.Signing
import BandVerif.Common.ListSum

namespace BandVerif.Signing

/-- what the escrow still owes for signing `sid` in denom `d`: the stored fee per signer × threshold while the bandtss
    record of a paid request still maps to it as its current signing -/
def owed (s : State) (sid : Nat) (d : String) : Nat :=
  if s.mapping sid = 0 then 0 else
  match s.bsigs (s.mapping sid) with
  | some b => if sid = b.currentSid then b.feePerSigner d * s.threshold else 0
  | none => 0

def owedSum (s : State) (d : String) : Nat := ((List.range (s.count + 1)).map (fun i => owed s i d)).sum

structure EInv (s : State) : Prop where
  /-- the escrow covers everything still owed -/
  covers : ∀ d, owedSum s d ≤ s.escrow d
  /-- no committee is larger than the threshold (the sampler draws exactly `threshold` members) -/
  small : ∀ sid att atm, s.attempts sid att = some atm → atm.assigned.length ≤ s.threshold
  /-- bandtss ids in use are at most the counter -/
  bids : ∀ sid, s.mapping sid ≤ s.bcount
  /-- tss ids with a mapping are at most the tss counter -/
  sids : ∀ sid, s.count < sid → s.mapping sid = 0
  /-- a mapped tss id has its bandtss record (MustGetSigning in the callbacks cannot panic) -/
  mapped : ∀ sid, s.mapping sid ≠ 0 → (s.bsigs (s.mapping sid)).isSome

theorem EInv.le_count {s : State} (h : EInv s) {sid : Nat} (hm : s.mapping sid ≠ 0) : sid ≤ s.count :=
  Nat.le_of_not_gt fun hlt => hm (h.sids sid hlt)

theorem owed_le_sum (s : State) (sid : Nat) (d : String) (h : sid ≤ s.count) : owed s sid d ≤ owedSum s d :=
  le_sum_map_of_mem _ (owed s · d) sid (List.mem_range.mpr (by omega))

/-- the payout branch of `onCompleted` is taken for the current signing of the request only -/
theorem current_of_paid {s : State} {sid : Nat} {b : BSig} (h : ¬(sid ≠ b.currentSid || isZero s b.feePerSigner) = true) :
    sid = b.currentSid := by
  simp at h; exact h.1

theorem owed_current {s : State} {sid : Nat} {b : BSig} (hm : s.mapping sid ≠ 0) (hb : s.bsigs (s.mapping sid) = some b)
    (hcur : sid = b.currentSid) (d : String) : owed s sid d = b.feePerSigner d * s.threshold := by
  unfold owed; rw [if_neg hm, hb]; exact if_pos hcur

/-- the members handed to the completion callback: those of the stored attempt, at most `threshold` -/
theorem EInv.assigned_le {s : State} (h : EInv s) (sid att : Nat) :
    (((s.attempts sid att).map (·.assigned.map (·.1))).getD []).length ≤ s.threshold := by
  cases ha : s.attempts sid att with
  | none => exact Nat.zero_le _
  | some atm => simp only [Option.map_some, Option.getD_some, List.length_map]; exact h.small sid att atm ha

/-- what is owed for the current signing of a paid request pays any committee of at most `threshold` members -/
theorem EInv.payout_le {s : State} (h : EInv s) {sid : Nat} {b : BSig} (hm : s.mapping sid ≠ 0) (hb : s.bsigs (s.mapping sid) = some b)
    (hcur : sid = b.currentSid) {n : Nat} (hn : n ≤ s.threshold) (d : String) : b.feePerSigner d * n ≤ s.escrow d := by
  have h1 := owed_le_sum s sid d (h.le_count hm)
  have h2 := h.covers d
  have h3 := owed_current hm hb hcur d
  have h4 := Nat.mul_le_mul_left (b.feePerSigner d) hn
  omega

/-- the seven equations are, in this order: escrow, mapping, bsigs, bcount, count, threshold, attempts -/
theorem einv_of_frame (s s' : State) (h : EInv s) (a : s'.escrow = s.escrow) (b : s'.mapping = s.mapping) (c : s'.bsigs = s.bsigs)
    (d : s'.bcount = s.bcount) (e : s'.count = s.count) (f : s'.threshold = s.threshold) (g : s'.attempts = s.attempts) : EInv s' := by
  have ho : owedSum s' = owedSum s := by unfold owedSum owed; rw [b, c, e, f]
  refine ⟨?_, ?_, ?_, ?_, ?_⟩
  · rw [ho, a]; exact h.covers
  · rw [f, g]; exact h.small
  · rw [b, d]; exact h.bids
  · rw [b, e]; exact h.sids
  · rw [b, c]; exact h.mapped

/-- what `EInv` reads.  The generators below are stated for `s` with the fields that move written out, and carried to the
    state an operation returns by `einv_of_view`. -/
def eview (s : State) := (s.escrow, s.mapping, s.bsigs, s.bcount, s.count, s.threshold, s.attempts)

theorem einv_of_view {s s' : State} (h : EInv s) (e : eview s' = eview s) : EInv s' :=
  einv_of_frame s s' h (congrArg (·.1) e) (congrArg (·.2.1) e) (congrArg (·.2.2.1) e) (congrArg (·.2.2.2.1) e)
    (congrArg (·.2.2.2.2.1) e) (congrArg (·.2.2.2.2.2.1) e) (congrArg (·.2.2.2.2.2.2) e)

theorem einv_fewer {s : State} (h : EInv s) {att : Nat → Nat → Option Attempt}
    (g : ∀ i a atm, att i a = some atm → s.attempts i a = some atm) : EInv { s with attempts := att } :=
  ⟨h.covers, fun i a atm q => h.small i a atm (g i a atm q), h.bids, h.sids, h.mapped⟩

/-- dropping the mapping of `sid` releases what was owed for it: the escrow may shrink by that much -/
theorem einv_drop {s : State} (h : EInv s) (sid : Nat) {esc : Coins} (he : ∀ d, s.escrow d ≤ esc d + owed s sid d) :
    EInv { s with mapping := fun i => if i = sid then 0 else s.mapping i, escrow := esc } := by
  have ho : ∀ i d, owed { s with mapping := fun i => if i = sid then 0 else s.mapping i, escrow := esc } i d =
      if i = sid then 0 else owed s i d := by
    intro i d; unfold owed; dsimp only; split <;> rfl
  refine ⟨fun d => ?_, h.small, fun i => ?_, fun i hi => ?_, fun i hi => ?_⟩
  · have := h.covers d; have := he d
    unfold owedSum at *; rw [funext (ho · d)]; dsimp only
    by_cases hs : sid ∈ List.range (s.count + 1)
    · have := sum_map_move _ (owed s · d) (fun i => if i = sid then 0 else owed s i d) sid 0 (owed s sid d) List.nodup_range hs
        (fun b _ hb => if_neg hb) (by simp)
      omega
    · -- an id above the counter is not mapped: nothing was owed for it, and no summand changes
      have : owed s sid d = 0 := by unfold owed; rw [if_pos (h.sids sid (by rw [List.mem_range] at hs; omega))]
      rw [List.map_congr_left fun b hb => if_neg fun (e : b = sid) => hs (e ▸ hb)]; omega
  · dsimp only; split
    · omega
    · exact h.bids i
  · dsimp only; split
    · rfl
    · exact h.sids i hi
  · dsimp only at hi ⊢; split at hi
    · exact absurd rfl hi
    · rw [if_neg ‹_›]; exact h.mapped i hi

theorem onCompleted_einv (s : State) (sid : Nat) (assigned : List Nat) (h : EInv s) (hl : assigned.length ≤ s.threshold) :
    EInv (onCompleted s sid assigned) := by
  unfold onCompleted
  simp only []
  split
  · exact einv_of_view h rfl
  · split
    · exact einv_of_view h rfl
    · rename_i hm0 _ b hb
      split
      · exact einv_of_view (einv_drop h sid fun _ => Nat.le_add_right ..) rfl
      · rename_i hpay
        -- the current signing of a paid request: each of the `≤ threshold` members gets the stored fee, all of it was owed
        have hcur := current_of_paid hpay
        rw [payAll_eq]
        refine einv_of_view (einv_drop h sid fun d => ?_) rfl
        rw [owed_current hm0 hb hcur]
        have := Nat.mul_le_mul_left (b.feePerSigner d) hl
        show s.escrow d ≤ s.escrow d - _ + _; omega

theorem aggregateAll_einv (l : List Nat) (s : State) (h : EInv s) : EInv (aggregateAll s l) := by
  refine aggregateAll_inv EInv (fun s sid sg _ h => ?_) l s h
  exact onCompleted_einv _ sid _ (einv_of_view h rfl) (h.assigned_le sid sg.attempt)

theorem expireGo_einv (height nowNs : Int) (l : List (Nat × Nat)) (s : State) (acc : List Nat) (n : Nat) (h : EInv s) :
    EInv (expireGo height nowNs l s acc n).1 := by
  refine expireGo_inv EInv height nowNs (fun s sid att sg atm _ _ h => ?_) l s acc n h
  -- `consumeHead` writes nothing else that `EInv` reads: its frame lemma, asked about the view with `attempts` held fixed
  refine einv_of_view (einv_fewer h (att := (consumeHead s sid att sg atm nowNs).attempts) fun i a atm' q => ?_)
    (consumeHead_frame (fun t => eview { t with attempts := _ }) (fun _ _ => rfl) ..)
  rw [(consumeHead_keep ..).2.1] at q
  split at q
  · cases q
  · exact q

theorem initiated_einv (s : State) (sid att : Nat) (c : List Nat) (height : Int) (h : EInv s) (hc : c.length ≤ s.threshold) :
    EInv (initiated s sid att c height) := by
  refine ⟨h.covers, fun i a atm q => ?_, h.bids, h.sids, h.mapped⟩
  dsimp only [initiated] at q
  split at q
  · cases q; exact Nat.le_trans (dequeueAll_length c s.queues) hc
  · exact h.small i a atm q

theorem retryOne_einv (s : State) (sid : Nat) (c : List Nat) (height : Int) (h : EInv s) (hc : c.length ≤ s.threshold) :
    EInv (retryOne s sid c height) := by
  rcases retryOne_cases s sid c height with ⟨sg, -, -, -, -, e⟩ | ⟨sg, -, -, e⟩ | ⟨-, e⟩
  · rw [e]; exact initiated_einv s sid _ c height h hc
  · rw [e]; exact einv_of_view (einv_drop h sid fun _ => Nat.le_add_right ..) rfl
  · rw [e]; exact h

theorem retryAll_einv (committee : Nat → List Nat) (height : Int) (l : List Nat) (s : State) (h : EInv s)
    (hc : ∀ i, (committee i).length ≤ s.threshold) : EInv (retryAll committee height l s) :=
  (retryAll_inv (fun s' => EInv s' ∧ s'.threshold = s.threshold) committee height
    (fun s' sid h' => ⟨retryOne_einv s' sid _ height h'.1 (h'.2 ▸ hc sid), (retryOne_frame (·.threshold) (fun _ _ => rfl) ..).trans h'.2⟩)
    l s ⟨h, rfl⟩).1

theorem endBlock_einv (s : State) (committee : Nat → List Nat) (height nowNs : Int) (h : EInv s)
    (hc : ∀ i, (committee i).length ≤ s.threshold) : EInv (endBlock s committee height nowNs) := by
  have hA : EInv (aggd s) := einv_of_view (aggregateAll_einv s.pending s h) rfl
  have hB : EInv (expd s height nowNs) := einv_of_view (expireGo_einv height nowNs _ _ [] 0 hA) rfl
  have ht : (expd s height nowNs).threshold = s.threshold :=
    expd_frame (·.threshold) (fun _ _ => rfl) ..
  exact retryAll_einv committee height _ _ hB fun i => ht ▸ hc i

theorem escrowed_escrow (s : State) (sender : Nat) (auth : Bool) (d : String) :
    (escrowed s sender auth).escrow d = s.escrow d + feeFor s auth d * s.threshold := by
  unfold escrowed
  cases auth with
  | true => simp [feeFor]
  | false => simp [addC, reqCost, mulC]

/-- AddSigning for the next tss id, the escrow having grown by what is now owed for it -/
theorem einv_record {s : State} (h : EInv s) (fee : Coins) (sender : Nat) {esc : Coins}
    (he : ∀ d, esc d = s.escrow d + fee d * s.threshold) : EInv (recordB { s with count := s.count + 1, escrow := esc } fee sender) := by
  have old : ∀ {i}, i ≠ s.count + 1 → s.mapping i ≠ s.bcount + 1 := fun {i} _ => by have := h.bids i; omega
  refine ⟨fun d => ?_, h.small, fun i => ?_, fun i hi => ?_, fun i hi => ?_⟩
  · have hnew : owed (recordB { s with count := s.count + 1, escrow := esc } fee sender) (s.count + 1) d = fee d * s.threshold := by
      simp [owed, recordB]
    have hold : ∀ i ∈ List.range (s.count + 1), owed (recordB { s with count := s.count + 1, escrow := esc } fee sender) i d = owed s i d :=
      fun i hi => by
        have hi' : i ≠ s.count + 1 := by have := List.mem_range.mp hi; omega
        simp only [owed, recordB, if_neg hi', if_neg (old hi')]
    show ((List.range (s.count + 1 + 1)).map _).sum ≤ esc d
    rw [List.range_succ, List.map_append, List.sum_append, List.map_congr_left hold, he]
    simp only [List.map_cons, List.map_nil, List.sum_cons, List.sum_nil, hnew]
    have := h.covers d; unfold owedSum at this; omega
  · show (if i = s.count + 1 then s.bcount + 1 else s.mapping i) ≤ s.bcount + 1
    split
    · omega
    · have := h.bids i; omega
  · show (if i = s.count + 1 then s.bcount + 1 else s.mapping i) = 0
    have hi : s.count + 1 < i := hi
    rw [if_neg (by omega)]; exact h.sids i (by omega)
  · simp only [recordB] at hi ⊢
    by_cases e : i = s.count + 1
    · simp only [if_pos e, if_pos]; rfl
    · simp only [if_neg e, if_neg (old e)] at hi ⊢; exact h.mapped i hi

theorem request_einv (s : State) (sender : Nat) (auth : Bool) (limit : Coins) (c : List Nat) (height : Int) (h : EInv s)
    (hc : c.length ≤ s.threshold) : EInv (request s sender auth limit c height).1 ∧ (request s sender auth limit c height).1.threshold = s.threshold := by
  refine ⟨?_, request_frame (·.threshold) (fun _ _ => rfl) ..⟩
  rcases request_cases s sender auth limit c height with ⟨e, -, he⟩ | ⟨b, e, hesc, -, -, -, he⟩ <;> rw [he]
  · exact h
  · have hd := escrowed_escrow s sender auth
    rw [hesc] at hd
    -- as far as `EInv` reads, CreateSigning, the first round and AddSigning may be taken in another order
    exact einv_of_view (initiated_einv _ (s.count + 1) 1 c height (einv_record h _ sender hd) hc) rfl

theorem geAll_iff (s : State) (a b : Coins) : geAll s a b = true ↔ ∀ d ∈ s.denoms, b d ≤ a d := by
  unfold geAll; simp [List.all_eq_true]

end BandVerif.Signing
