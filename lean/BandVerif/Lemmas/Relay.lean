/- Lemmas for C12 over Model/Relay.lean: varints read back (`readUvarint_uvarint`, `readVarint_nonneg`); what GetMerklePaths
   makes of one proof step (`merklePathOf_header`); protobuf fields of one length byte; the RFC-6962 split rule
   (`simpleRoot_split`, from `rootGo_fuel`: the fuel does not matter); `getPrefix_eq`; and the three facts the induction over an
   IAVL tree in Props/C12.lean rests on: parsing and folding a concatenated path, and the hash of an inner node as a step. -/
import BandVerif.Model.Relay

namespace BandVerif.Relay

theorem uvarint_small (n : Nat) (h : n < 128) : uvarint n = [n] := by
  rw [uvarint]; simp [h]

theorem uvarint_big (n : Nat) (h : ¬ n < 128) : uvarint n = (n % 128 + 128) :: uvarint (n / 128) := by
  rw [uvarint]; simp [h]

theorem readUvarint_uvarint (n : Nat) (rest : Bytes) : readUvarint (uvarint n ++ rest) = some (n, (uvarint n).length) := by
  fun_induction uvarint n with
  | case1 n h => simp [readUvarint, h]
  | case2 n h ih =>
    have hb : ¬ (n % 128 + 128 < 128) := by omega
    simp only [List.cons_append, readUvarint, if_neg hb, ih, List.length_cons]
    congr 2
    omega

theorem readVarint_nonneg (n : Nat) (rest : Bytes) :
    readVarint (varintNonneg n ++ rest) = some ((n : Int), (varintNonneg n).length) := by
  -- zig-zag of a non-negative value is `2 * n`: even, and halved back by the reader
  simp [readVarint, varintNonneg, readUvarint_uvarint]

/-- what `GetMerklePaths` makes of one inner op whose prefix is the node header (height, size, version) followed by `rest`.
    If `rest` is the single byte 0x20 (the length byte of the proven child), the proven child is the left one and the sibling is
    read from the suffix; otherwise `rest` is 0x20‖sibling‖0x20, the proven child is the right one and the sibling is `rest`
    without its first and last byte -/
theorem merklePathOf_header (h sz v : Nat) (rest suf : Bytes) (hh : h < 2 ^ 32) (hs : sz < 2 ^ 63) (hv : v < 2 ^ 63) :
    merklePathOf ⟨varintNonneg h ++ (varintNonneg sz ++ (varintNonneg v ++ rest)), suf⟩ =
      if rest.length ≠ 1 then
        if 2 ≤ rest.length then some ⟨true, h, sz, v, (rest.take (rest.length - 1)).drop 1⟩ else none
      else if 1 ≤ suf.length then some ⟨false, h, sz, v, suf.drop 1⟩ else none := by
  have c1 : ((h : Int) % 4294967296).toNat = h := by omega
  have c2 : ((sz : Int) % 18446744073709551616).toNat = sz := by omega
  have c3 : ((v : Int) % 18446744073709551616).toNat = v := by omega
  simp only [merklePathOf, readVarint_nonneg, List.drop_left]
  rw [← List.append_assoc, List.drop_left' List.length_append, readVarint_nonneg, ← List.append_assoc]
  simp only [c1, c2, c3, ← List.length_append]
  generalize varintNonneg h ++ varintNonneg sz ++ varintNonneg v = P
  have e1 : P.length + 1 ≠ P.length + rest.length ↔ rest.length ≠ 1 := by omega
  have e2 : P.length + 1 ≤ P.length + rest.length - 1 ↔ 2 ≤ rest.length := by omega
  simp only [List.length_append, e1, e2, ge_iff_le]
  by_cases h2 : 2 ≤ rest.length
  · rw [show P.length + rest.length - 1 = P.length + (rest.length - 1) by omega, List.take_length_add_append,
      List.drop_length_add_append]
  · simp only [if_neg h2]

/-! protobuf fields below 128 have one length byte -/

theorem pbVarint_small (tag n : Nat) (h0 : n ≠ 0) (h : n < 128) : pbVarint tag n = [tag, n] := by
  rw [pbVarint, if_neg h0, uvarint_small n h]

/-- also for `cdcBytes b`, which is `pbBytes 10 b` by definition -/
theorem pbBytes_small (tag : Nat) (b : Bytes) (h0 : 0 < b.length) (h : b.length < 128) : pbBytes tag b = tag :: b.length :: b := by
  cases b with
  | nil => cases h0
  | cons a t => rw [pbBytes, uvarint_small _ h]; rfl

theorem splitGo_bounds (f k n : Nat) (hk : 0 < k) (hkn : k < n) : 0 < splitGo f k n ∧ splitGo f k n < n := by
  fun_induction splitGo f k n with
  | case1 => exact ⟨hk, hkn⟩
  | case2 f k n c ih => exact ih (by omega) c
  | case3 => exact ⟨hk, hkn⟩

theorem splitPoint_bounds (n : Nat) (h : 2 ≤ n) : 0 < splitPoint n ∧ splitPoint n < n :=
  splitGo_bounds n 1 n (by omega) (by omega)

theorem split_lengths (items : List Bytes) (h : 2 ≤ items.length) :
    (items.take (splitPoint items.length)).length < items.length ∧ (items.drop (splitPoint items.length)).length < items.length := by
  have hb := splitPoint_bounds items.length h
  rw [List.length_take, List.length_drop]; omega

theorem rootGo_fuel (H : Bytes → Bytes) : ∀ (f f' : Nat) (items : List Bytes), items.length ≤ f → items.length ≤ f' →
    rootGo H f items = rootGo H f' items
  | f, f', [], _, _ => by cases f <;> cases f' <;> rfl
  | f + 1, f' + 1, [x], _, _ => rfl
  | f + 1, f' + 1, a :: b :: rest, h, h' => by
    -- both parts are shorter than the list, so one unit of fuel less still covers them
    obtain ⟨lt, ld⟩ := split_lengths (a :: b :: rest) (by simp)
    show innerHash H (rootGo H f _) (rootGo H f _) = innerHash H (rootGo H f' _) (rootGo H f' _)
    rw [rootGo_fuel H f f' _ (by omega) (by omega), rootGo_fuel H f f' _ (by omega) (by omega)]
  | 0, _, _ :: _, h, _ | _, 0, _ :: _, _, h => by simp at h

theorem simpleRoot_single (H : Bytes → Bytes) (x : Bytes) : simpleRoot H [x] = leafHash H x := rfl

/-- RFC-6962 recursion: a tree of ≥ 2 leaves splits at the largest power of two below its size -/
theorem simpleRoot_split (H : Bytes → Bytes) (items : List Bytes) (h : 2 ≤ items.length) :
    simpleRoot H items = innerHash H (simpleRoot H (items.take (splitPoint items.length))) (simpleRoot H (items.drop (splitPoint items.length))) := by
  match items, h with
  | a :: b :: rest, _ =>
    obtain ⟨lt, ld⟩ := split_lengths (a :: b :: rest) (by simp)
    have hn : (a :: b :: rest).length = rest.length + 2 := rfl
    unfold simpleRoot
    show innerHash H (rootGo H (rest.length + 1) _) (rootGo H (rest.length + 1) _) = _
    rw [rootGo_fuel H (rest.length + 1) _ _ (by omega) (Nat.le_refl _),
      rootGo_fuel H (rest.length + 1) _ _ (by omega) (Nat.le_refl _)]

theorem sfixed64_length (n : Nat) : (sfixed64 n).length = 8 := by simp [sfixed64]

/-- `GetPrefix` = the type/height/round fields of the canonical vote (the default-timestamp tail is trimmed exactly) -/
theorem getPrefix_eq (height round : Nat) :
    getPrefix 2 height round = [8, 2] ++ (if height = 0 then [] else 17 :: sfixed64 height) ++ (if round = 0 then [] else 25 :: sfixed64 round) := by
  unfold getPrefix votePrefixDelimited
  rw [pbVarint_small 8 2 (by decide) (by decide)]
  generalize hpp : ([8, 2] ++ (if height = 0 then [] else 17 :: sfixed64 height) ++ (if round = 0 then [] else 25 :: sfixed64 round) : Bytes) = pp
  have hlen : pp.length ≤ 20 := by
    rw [← hpp]; simp only [List.length_append, List.length_cons, List.length_nil]
    split <;> split <;> simp [sfixed64_length]
  have hsm : (pp ++ [42, 11, 8, 128, 146, 184, 195, 152, 254, 255, 255, 255, 1]).length < 128 := by simp; omega
  simp only []
  rw [uvarint_small _ hsm]
  -- the length byte is `pp.length + 13`: `take (· - 12)` keeps it and `pp`, `drop 1` removes it
  simp [List.take_left']

theorem getMerklePaths_append {a b : List Step} {pa pb : List IPath}
    (ha : getMerklePaths a = some pa) (hb : getMerklePaths b = some pb) : getMerklePaths (a ++ b) = some (pa ++ pb) := by
  fun_induction getMerklePaths a generalizing pa with
  | case1 => cases ha; exact hb
  | case2 s rest p ps hps hp ih => cases ha; simp [getMerklePaths, hp, ih hps]
  | case3 => cases ha

theorem iavlRoot_append (H : Bytes → Bytes) (leaf : Bytes) (a b : List IPath) :
    iavlRoot H leaf (a ++ b) = iavlRoot H (iavlRoot H leaf a) b := by
  induction a generalizing leaf with
  | nil => rfl
  | cons p rest ih => simp only [List.cons_append, iavlRoot]; exact ih _

/-- an inner node hashes as the ICS-23 step that proves its child `d` does: prefix ‖ hash of that child ‖ suffix -/
theorem ITree.hash_inner (H : Bytes → Bytes) (h s v : Nat) (l r : ITree) (d : Bool) :
    (ITree.inner h s v l r).hash H =
      H ((iavlStep h s v ((if d then l else r).hash H) d).pre ++ (if d then r else l).hash H ++
        (iavlStep h s v ((if d then l else r).hash H) d).suf) := by
  cases d <;> simp [iavlStep, ITree.hash]

end BandVerif.Relay
