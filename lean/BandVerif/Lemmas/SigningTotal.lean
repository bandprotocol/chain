/- C02/C10/C13: the places where HandleSigningEndBlock can panic in Go (MustGetSigning / MustGetSigningAttempt on a
   scheduled entry, MustGetSigning in the bandtss callbacks, the payout out of the escrow) made observable, and the proof
   that none of them is reachable from a state satisfying the history invariants.
   The `*Panics` predicates are written by hand beside the model loops (`aggregateAll`, `expireGo`, `retryAll`), with the
   same recursion and the same intermediate states, because those loops return a state and have no place for a failure;
   `C02.tssEnd` runs the end-blocker only where `endBlockPanics` is false, so C02's totality rests on their reading of
   the Go code.  Core-only. -/
import BandVerif.Lemmas.SigningHist
import BandVerif.Lemmas.SigningEscrow

namespace BandVerif.Signing

/-- OnSigningCompleted would panic: no bandtss record for a mapped id, or the escrow cannot pay the assigned members -/
def payPanics (s : State) (sid : Nat) (assigned : List Nat) : Bool :=
  if s.mapping sid = 0 then false else
  match s.bsigs (s.mapping sid) with
  | none => true
  | some b =>
    if sid ≠ b.currentSid || isZero s b.feePerSigner then false
    else s.denoms.any fun d => decide (s.escrow d < b.feePerSigner d * assigned.length)

/-- aggregation of the pending ids: MustGetSigning on a pending id, or the payout -/
def aggPanics : State → List Nat → Bool
  | _, [] => false
  | s, sid :: rest =>
    match s.signings sid with
    | none => true
    | some sg =>
      let assigned := ((s.attempts sid sg.attempt).map (·.assigned.map (·.1))).getD []
      let s1 := { s with signings := fun i => if i = sid then some { sg with status := stSuccess } else s.signings i }
      payPanics s1 sid assigned || aggPanics (onCompleted s1 sid assigned) rest

/-- the expiry pass reaches an entry whose signing or attempt record is missing (MustGetSigning / MustGetSigningAttempt) -/
def expPanics (height : Int) (nowNs : Int) : List (Nat × Nat) → State → Bool
  | [], _ => false
  | (sid, att) :: rest, s =>
    match s.signings sid, s.attempts sid att with
    | some sg, some atm =>
      if atm.expiredHeight > height then false
      else
        let timedOut := (s.partials sid att).length ≠ atm.assigned.length
        let idle := ((s.attempts sid sg.attempt).map fun c => (c.assigned.map (·.1)).filter fun m => !(s.partials sid sg.attempt).contains m).getD []
        let s1 := if timedOut then onTimeout s sid sg.attempt nowNs idle else s
        let s2 := { s1 with partials := fun i a => if i = sid ∧ a = att then [] else s1.partials i a,
                             attempts := fun i a => if i = sid ∧ a = att then none else s1.attempts i a }
        expPanics height nowNs rest s2
    | _, _ => true

/-- a retry whose signing record is missing (HandleFailedSigning → MustGetSigning) -/
def retryPanics (committee : Nat → List Nat) (height : Int) : List Nat → State → Bool
  | [], _ => false
  | sid :: rest, s => (s.signings sid).isNone || retryPanics committee height rest (retryOne s sid (committee sid) height)

/-- HandleSigningEndBlock panics -/
def endBlockPanics (s : State) (committee : Nat → List Nat) (height nowNs : Int) : Bool :=
  let s1 := aggregateAll s s.pending
  let s2 := { s1 with pending := [] }
  let r := expireGo height nowNs s2.expirations s2 [] 0
  let s4 := { r.1 with expirations := r.1.expirations.drop r.2.2 }
  aggPanics s s.pending || expPanics height nowNs s2.expirations s2 || retryPanics committee height r.2.1 s4

theorem payPanics_false (s : State) (sid : Nat) (assigned : List Nat) (h : EInv s) (hl : assigned.length ≤ s.threshold) :
    payPanics s sid assigned = false := by
  unfold payPanics
  split
  · rfl
  · rename_i hm
    cases hb : s.bsigs (s.mapping sid) with
    | none => have := h.mapped sid hm; rw [hb] at this; cases this
    | some b =>
      dsimp only
      split
      · rfl
      · rename_i hpay
        have hcur := current_of_paid hpay
        rw [List.any_eq_false]
        intro d _
        simpa using h.payout_le hm hb hcur hl d

theorem aggPanics_false (l : List Nat) (s : State) (h : EInv s) (hl : ∀ sid ∈ l, (s.signings sid).isSome) : aggPanics s l = false := by
  fun_induction aggPanics s l with
  | case1 => rfl
  | case2 s sid rest hs => have := hl sid (List.mem_cons_self ..); rw [hs] at this; cases this
  | case3 s sid rest sg hs assigned s1 ih =>
    have hlen := h.assigned_le sid sg.attempt
    have h1 : EInv s1 := einv_of_view h rfl
    rw [payPanics_false s1 sid _ h1 hlen, Bool.false_or]
    refine ih (onCompleted_einv _ sid _ h1 hlen) fun i hi => ?_
    rw [show (onCompleted s1 sid assigned).signings = _ from aggOne_signings s sid sg]
    dsimp only; split
    · rfl
    · exact hl i (List.mem_cons_of_mem _ hi)

theorem expPanics_false (height nowNs : Int) (l : List (Nat × Nat)) (s : State) (hn : l.Nodup)
    (hl : ∀ x ∈ l, ∃ sg atm, s.signings x.1 = some sg ∧ s.attempts x.1 x.2 = some atm) : expPanics height nowNs l s = false := by
  fun_induction expPanics height nowNs l s with
  | case1 => rfl
  | case2 => rfl
  | case3 sid att rest s sg atm ha hs hexp timedOut idle s1 s2 ih =>
    have hx := List.nodup_cons.mp hn
    refine ih hx.2 fun y hy => ?_
    -- a later entry is another one: consuming the head has left its records alone
    obtain ⟨f1, f2, -⟩ := consumeHead_keep s sid att sg atm nowNs
    rw [show s2.signings = _ from f1, show s2.attempts y.1 y.2 = _ from f2 y.1 y.2, if_neg fun e => hx.1 (by rw [← e.1, ← e.2]; exact hy)]
    exact hl y (List.mem_cons_of_mem _ hy)
  | case4 sid att rest s hmiss =>
    obtain ⟨sg, atm, hs, ha⟩ := hl _ (List.mem_cons_self ..)
    exact (hmiss sg atm hs ha).elim

theorem retryPanics_false (committee : Nat → List Nat) (height : Int) (l : List Nat) (s : State) (hn : l.Nodup)
    (hl : ∀ i ∈ l, (s.signings i).isSome) : retryPanics committee height l s = false := by
  induction l generalizing s with
  | nil => rfl
  | cons sid rest ih =>
    have hnd := List.nodup_cons.mp hn
    rw [retryPanics, Option.isNone_eq_false_iff.mpr (hl sid (List.mem_cons_self ..)), Bool.false_or]
    refine ih _ hnd.2 fun i hi => ?_
    rw [(retryOne_other s sid _ height fun e => hnd.1 (e ▸ hi)).2]
    exact hl i (List.mem_cons_of_mem _ hi)

theorem endBlockPanics_eq (s : State) (committee : Nat → List Nat) (height nowNs : Int) :
    endBlockPanics s committee height nowNs =
      (aggPanics s s.pending || expPanics height nowNs (aggd s).expirations (aggd s) ||
        retryPanics committee height (expiryPass s height nowNs).2.1 (expd s height nowNs)) := rfl

/-- **HandleSigningEndBlock never panics** from a state satisfying the history invariants -/
theorem endBlock_never_panics (s : State) (committee : Nat → List Nat) (height nowNs : Int) (h : HInv s) (he : EInv s) :
    endBlockPanics s committee height nowNs = false := by
  have H2 : HInv (aggd s) := aggregated_hinv s h
  have e := expired_hinv s h height nowNs
  rw [endBlockPanics_eq, aggPanics_false s.pending s he (fun sid hs => by obtain ⟨sg, _, q, _⟩ := h.h3 sid hs; rw [q]; rfl), Bool.false_or,
    expPanics_false height nowNs _ (aggd s) H2.expirations_nodup fun x hx =>
      let ⟨sg, atm, q1, _, q3, _⟩ := H2.h1 x.1 x.2 hx
      ⟨sg, atm, q1, q3⟩, Bool.false_or]
  refine retryPanics_false committee height _ _ e.timedOut_nodup fun i hi => ?_
  obtain ⟨hp, sg, q, -⟩ := e.timedOut_waiting i hi
  rw [e.sig_of_not_pending q hp]; rfl

end BandVerif.Signing
