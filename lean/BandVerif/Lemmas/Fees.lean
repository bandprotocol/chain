/- C13, the oracle part: what `Fees.collect` (CollectFee inside PrepareRequest) returns (`collect_cases`): balances exactly
   when it returns `ok`, and which.  Core-only. -/
import BandVerif.Model.Fees

namespace BandVerif.Fees

theorem geAll_iff (s : State) (a b : Coins) : geAll s a b = true ↔ ∀ d ∈ s.denoms, b d ≤ a d := by
  unfold geAll; simp [List.all_eq_true]

/-- total fee of a source list for `ask` validators, per denom -/
def totalOf (srcs : List Source) (ask : Nat) (d : String) : Nat := (srcs.map fun x => x.fee d * ask).sum
/-- the part of it that goes to treasury `a` -/
def shareOf (srcs : List Source) (ask a : Nat) (d : String) : Nat :=
  ((srcs.filter (·.treasury == a)).map fun x => x.fee d * ask).sum

theorem isZero_fee (s : State) (f : Coins) (h : isZero s f = true) : ∀ d ∈ s.denoms, f d = 0 := by
  unfold isZero at h; simpa [List.all_eq_true] using h

theorem transfer_step (bal : Nat → Coins) (payer tre a : Nat) (fee : Coins) (d : String) (hb : fee d ≤ bal payer d) :
    (fun x => if x = tre then addC ((fun y => if y = payer then subC (bal payer) fee else bal y) tre) fee
              else (fun y => if y = payer then subC (bal payer) fee else bal y) x) a d
      + (if a = payer then fee d else 0) = bal a d + (if tre = a then fee d else 0) := by
  have e : (tre = a) = (a = tre) := propext eq_comm
  simp only [e]
  by_cases h2 : a = tre
  · subst h2
    by_cases h1 : a = payer
    · subst h1; simp [addC, subC]; omega
    · simp [h1, addC]
  · by_cases h1 : a = payer
    · subst h1; simp [h2, subC]; omega
    · simp [h1, h2]

theorem totalOf_cons (src : Source) (rest : List Source) (ask : Nat) (d : String) :
    totalOf (src :: rest) ask d = src.fee d * ask + totalOf rest ask d := by simp [totalOf]

theorem shareOf_cons (src : Source) (rest : List Source) (ask a : Nat) (d : String) :
    shareOf (src :: rest) ask a d = (if src.treasury = a then src.fee d * ask else 0) + shareOf rest ask a d := by
  unfold shareOf; by_cases ht : src.treasury = a <;> simp [ht]

/-- the collection loop fails and returns no balances, or succeeds: then the collected total has grown by exactly Σ fee·ask
    and is within the limit, and every account's balance has changed by (its treasury share) − (the total, for the payer) -/
theorem collect_cases (s : State) (payer ask : Nat) (limit : Coins) (srcs : List Source) (bal : Nat → Coins) (coll : Coins)
    (hlim : geAll s limit coll = true) :
    (∃ e, e ≠ Err.ok ∧ collect s payer ask limit srcs bal coll = (none, e)) ∨
    (∃ bal' coll', collect s payer ask limit srcs bal coll = (some (bal', coll'), Err.ok) ∧
      (∀ d ∈ s.denoms, coll' d = coll d + totalOf srcs ask d) ∧ geAll s limit coll' = true ∧
      (∀ a, ∀ d ∈ s.denoms, bal' a d + (if a = payer then totalOf srcs ask d else 0) = bal a d + shareOf srcs ask a d)) := by
  fun_induction collect s payer ask limit srcs bal coll with
  | case1 bal coll => exact .inr ⟨bal, coll, rfl, fun d _ => rfl, hlim, fun a d _ => by simp [totalOf, shareOf]⟩
  | case2 src rest bal coll hz ih =>
    -- a source without fee adds nothing to either sum
    refine (ih hlim).imp_right fun ⟨bal', coll', h, i1, i2, i3⟩ => ⟨bal', coll', h, fun d hd => ?_, i2, fun a d hd => ?_⟩
    all_goals have z := isZero_fee s src.fee hz d hd
    · rw [i1 d hd, totalOf_cons, z]; omega
    · rw [totalOf_cons, shareOf_cons, z]
      simpa only [Nat.zero_mul, Nat.zero_add, ite_self] using i3 a d hd
  | case3 => exact .inl ⟨.notEnoughFee, nofun, rfl⟩
  | case4 => exact .inl ⟨.insufficientFunds, nofun, rfl⟩
  | case5 src rest bal coll _ fee coll1 h1 h2 bal1 bal2 ih =>
    refine (ih (by simpa using h1)).imp_right fun ⟨bal', coll', h, i1, i2, i3⟩ => ⟨bal', coll', h, fun d hd => ?_, i2, fun a d hd => ?_⟩
    · rw [i1 d hd, totalOf_cons]; show coll d + src.fee d * ask + _ = _; omega
    · have st : bal2 a d + (if a = payer then src.fee d * ask else 0) = bal a d + (if src.treasury = a then src.fee d * ask else 0) :=
        transfer_step bal payer src.treasury a fee d ((geAll_iff s _ _).mp (by simpa using h2) d hd)
      have := i3 a d hd
      rw [totalOf_cons, shareOf_cons]
      by_cases hap : a = payer <;> simp only [hap, if_true, if_false] at this st ⊢ <;> omega

end BandVerif.Fees
