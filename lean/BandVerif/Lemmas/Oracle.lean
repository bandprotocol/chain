/- C01 lemmas.  The two end-block loops that cannot fail on an existing request are given by their exact post-state
   (`resolvePending_eq`, `missAll_eq`); the expiry loop is one named step (`expireOne`) under which its contract `ExpSpec`
   is closed, and the EndBlocker's contract `EndSpec` is read off it.  `Inv` is the invariant of all histories, `PInv` its
   part that the expiry loop reads; the report handler is stated once as `report_cases`.  Core only. -/
import BandVerif.Model.Oracle
import BandVerif.Common.Guarded
import BandVerif.Common.ListFacts

namespace BandVerif.Oracle
open BandVerif.VStatus

theorem saveResult_eq {s : State} {id : Nat} {req : Req} (h : s.requests id = some req) (st : Nat) (res : String) (now : Int) :
    saveResult s id st res now = some { s with
      results := fun i => if i = id then some (mkRes req (s.reports id).length now st res) else s.results i } := by
  simp [saveResult, h]

/-- `saveResult` reads only `requests` and `reports` and writes only `results`, so the order of the list and
    repetitions in it do not matter: every listed id gets the result computed from the PRE-state. -/
theorem resolvePending_eq (outcome : Nat → Nat × String) (now : Int) (l : List Nat) (s : State)
    (h : ∀ j ∈ l, (s.requests j).isSome) :
    resolvePending s outcome now l = some { s with
      results := fun i => if i ∈ l then (s.requests i).map fun req => mkRes req (s.reports i).length now (outcome i).1 (outcome i).2
        else s.results i } := by
  induction l generalizing s with
  | nil => simp [resolvePending]
  | cons id rest ih =>
    obtain ⟨req, hreq⟩ := Option.isSome_iff_exists.mp (h id (List.mem_cons_self ..))
    rw [resolvePending, saveResult_eq hreq]
    simp only []
    rw [ih]
    · congr 2
      funext i
      by_cases hi : i ∈ rest <;> by_cases e : i = id <;> simp [hi, e, hreq]
    · exact fun j hj => h j (List.mem_cons_of_mem _ hj)

/-- `missAll` on the `vstat` component; `reported` is the (unchanging) report list of the request -/
def missV (reported : List Nat) (reqTime nowNs : Int) (l : List Nat) (vs : Nat → VS) : Nat → VS :=
  l.foldl (fun vs v => if v ∉ reported then fun i => if i = v then missReport (vs v) (reqTime * 1000000000) nowNs else vs i else vs) vs

theorem missAll_eq (id : Nat) (reqTime nowNs : Int) (l : List Nat) (s : State) :
    missAll s id reqTime nowNs l = { s with vstat := missV (s.reports id) reqTime nowNs l s.vstat } := by
  induction l generalizing s with
  | nil => rfl
  | cons v rest ih =>
    simp only [missAll, missV, List.foldl_cons]
    split
    · exact ih _
    · exact ih _

theorem missV_ne {reported : List Nat} {reqTime nowNs : Int} {l : List Nat} {vs : Nat → VS} {v : Nat}
    (h : missV reported reqTime nowNs l vs v ≠ vs v) : v ∈ l ∧ v ∉ reported :=
  have ⟨_, hx, hc, e⟩ := foldl_write_ne (· ∉ reported) id _ l vs v h
  e ▸ ⟨hx, hc⟩

structure Inv (s : State) : Prop where
  /-- a request waiting to be resolved has no result yet, -/
  pend_open : ∀ id ∈ s.pending, s.results id = none
  /-- is still stored (so `SaveResult`'s `MustGetRequest` cannot panic), -/
  pend_req : ∀ id ∈ s.pending, (s.requests id).isSome
  /-- has the reports it was queued for, -/
  pend_full : ∀ id ∈ s.pending, ∀ req, s.requests id = some req → req.minCount ≤ (s.reports id).length
  /-- and is queued once -/
  pend_nodup : s.pending.Nodup
  /-- every id between the expiry cursor and the request counter is stored (the expiry loop's `MustGetRequest`) -/
  live_req : ∀ id, s.lastExpired < id → id ≤ s.count → (s.requests id).isSome
  /-- nothing is stored beyond the counter: the id the next request gets is free -/
  beyond : ∀ id, s.count < id → s.requests id = none
  le : s.lastExpired ≤ s.count
  /-- every id the cursor has passed got a result, at the latest when it was passed -/
  expired_has_result : ∀ id, 1 ≤ id → id ≤ s.lastExpired → (s.results id).isSome

/-- the clauses of `Inv` that do not mention `pending`: what the expiry loop reads, and keeps -/
structure PInv (s : State) : Prop where
  live_req : ∀ id, s.lastExpired < id → id ≤ s.count → (s.requests id).isSome
  beyond : ∀ id, s.count < id → s.requests id = none
  le : s.lastExpired ≤ s.count
  expired_has_result : ∀ id, 1 ≤ id → id ≤ s.lastExpired → (s.results id).isSome

theorem PInv.toInv {s : State} (h : PInv s) (hp : s.pending = []) : Inv s := by
  refine ⟨?_, ?_, ?_, ?_, h.live_req, h.beyond, h.le, h.expired_has_result⟩ <;> simp [hp]

/-- the state `processExpired` goes on with after expiring request `cur`, which exists as `req` -/
def expireOne (now nowNs : Int) (s : State) (cur : Nat) (req : Req) : State :=
  { s with
    requests := fun i => if i = cur then none else s.requests i
    reports := fun i => if i = cur then [] else s.reports i
    -- a request resolved earlier (it reached `minCount` in time) keeps that result; only an open one becomes EXPIRED
    results := fun i => if i = cur ∧ s.results cur = none
      then some (mkRes req (s.reports cur).length now statusExpired "") else s.results i
    lastExpired := cur
    vstat := missV (s.reports cur) req.time nowNs req.vals s.vstat }

theorem processExpired_succ {exp height now nowNs : Int} {fuel cur : Nat} {s : State} {req : Req}
    (hc : cur ≤ s.count) (hr : s.requests cur = some req) (he : req.height + exp ≤ height) :
    processExpired exp height now nowNs (fuel + 1) cur s =
      processExpired exp height now nowNs fuel (cur + 1) (expireOne now nowNs s cur req) := by
  -- the model saves the result only `if (s.results cur).isNone`, `expireOne` writes one lambda with the condition inside:
  -- in either case of `s.results cur` the two `results` functions agree pointwise
  cases hres : s.results cur <;>
    simp [processExpired, Nat.not_lt.mpr hc, hr, Int.not_lt.mpr he, saveResult_eq hr, expireOne, hres, missAll_eq]

theorem expireOne_off {now nowNs : Int} {s : State} {cur j : Nat} {req : Req} (e : j ≠ cur) :
    (expireOne now nowNs s cur req).requests j = s.requests j ∧ (expireOne now nowNs s cur req).reports j = s.reports j ∧
    (expireOne now nowNs s cur req).results j = s.results j :=
  ⟨if_neg e, if_neg e, if_neg fun h => e h.1⟩

theorem PInv.expireOne {s : State} (hP : PInv s) (hc : s.lastExpired + 1 ≤ s.count) (now nowNs : Int) (req : Req) :
    PInv (expireOne now nowNs s (s.lastExpired + 1) req) := by
  refine ⟨fun id h1 h2 => ?_, fun id h => ?_, hc, fun id h1 h2 => ?_⟩
  · have : id ≠ s.lastExpired + 1 := Nat.ne_of_gt h1
    simpa [Oracle.expireOne, this] using hP.live_req id (Nat.lt_of_succ_lt h1) h2
  · simp [Oracle.expireOne, hP.beyond id h]
  · by_cases e : id = s.lastExpired + 1
    · subst e; cases hres : s.results (s.lastExpired + 1) <;> simp [Oracle.expireOne, hres]
    · simpa [Oracle.expireOne, e] using hP.expired_has_result id h1 (by have : id ≤ s.lastExpired + 1 := h2; omega)

/-- what one run of ProcessExpiredRequests guarantees between its pre-state `s` and post-state `s'` -/
structure ExpSpec (exp height now : Int) (s s' : State) : Prop where
  pinv : PInv s'
  kept : ∀ j r, s.results j = some r → s'.results j = some r
  fresh : ∀ j r, s.results j = none → s'.results j = some r →
      ∃ req, s.requests j = some req ∧ req.height + exp ≤ height ∧
        r = mkRes req (s.reports j).length now statusExpired ""
  pending : s'.pending = s.pending
  cursor : s.lastExpired ≤ s'.lastExpired
  vstat : ∀ v, s'.vstat v ≠ s.vstat v → ∃ id req, s.requests id = some req ∧ v ∈ req.vals ∧ v ∉ s.reports id ∧
      req.height + exp ≤ height ∧ s.lastExpired < id ∧ id ≤ s'.lastExpired

theorem ExpSpec.refl (exp height now : Int) {s : State} (hP : PInv s) : ExpSpec exp height now s s :=
  ⟨hP, fun _ _ h => h, fun _ _ h1 h2 => by simp [h1] at h2, rfl, Nat.le_refl _, fun _ h => absurd rfl h⟩

theorem ExpSpec.step {exp height now nowNs : Int} {s s' : State} {req : Req}
    (hr : s.requests (s.lastExpired + 1) = some req) (he : req.height + exp ≤ height)
    (h : ExpSpec exp height now (expireOne now nowNs s (s.lastExpired + 1) req) s') : ExpSpec exp height now s s' := by
  -- `h` speaks of the pre-state `expireOne …`, yet `{ h with … }` is accepted: a clause not listed (`pinv`, `pending`)
  -- has, once the record update is unfolded, the very type wanted of it
  refine { h with kept := fun j r hj => h.kept j r ?_, fresh := fun j r hj hj' => ?_,
                   cursor := Nat.le_of_succ_le h.cursor, vstat := fun v hv => ?_ }
  · exact (if_neg fun h => by rw [← h.1, hj] at h; cases h.2).trans hj
  · by_cases e : j = s.lastExpired + 1
    · subst e
      have := h.kept _ _ (if_pos ⟨rfl, hj⟩)
      exact ⟨req, hr, he, Option.some.inj (hj'.symm.trans this)⟩
    · have off := expireOne_off (now := now) (nowNs := nowNs) (s := s) (req := req) e
      obtain ⟨rq, a, b, c⟩ := h.fresh j r (off.2.2.trans hj) hj'
      rw [off.1] at a; rw [off.2.1] at c
      exact ⟨rq, a, b, c⟩
  · by_cases hv3 : s'.vstat v = missV (s.reports (s.lastExpired + 1)) req.time nowNs req.vals s.vstat v
    · have := missV_ne (hv3 ▸ hv)
      exact ⟨_, req, hr, this.1, this.2, he, Nat.lt_succ_self _, h.cursor⟩
    · obtain ⟨id, rq, a, b, c, d, e, f⟩ := h.vstat v hv3
      have off := expireOne_off (now := now) (nowNs := nowNs) (s := s) (req := req) (cur := s.lastExpired + 1) (Nat.ne_of_gt e)
      rw [off.1] at a; rw [off.2.1] at c
      exact ⟨id, rq, a, b, c, d, Nat.lt_of_succ_lt e, f⟩

theorem processExpired_spec (exp height now nowNs : Int) (fuel : Nat) (s : State) (hP : PInv s) :
    ∃ s', processExpired exp height now nowNs fuel (s.lastExpired + 1) s = some s' ∧ ExpSpec exp height now s s' := by
  induction fuel generalizing s with
  | zero => exact ⟨s, rfl, .refl _ _ _ hP⟩
  | succ fuel ih =>
    by_cases hc : s.lastExpired + 1 ≤ s.count
    · obtain ⟨req, hr⟩ := Option.isSome_iff_exists.mp (hP.live_req _ (Nat.lt_succ_self _) hc)
      by_cases he : req.height + exp ≤ height
      · obtain ⟨s', hs', spec⟩ := ih _ (hP.expireOne hc now nowNs req)
        exact ⟨s', processExpired_succ hc hr he ▸ hs', spec.step hr he⟩
      · exact ⟨s, by simp [processExpired, hr, Int.not_le.mp he], .refl _ _ _ hP⟩
    · exact ⟨s, by simp [processExpired, Nat.not_le.mp hc], .refl _ _ _ hP⟩

/-- what one oracle EndBlocker guarantees between pre-state `s` (satisfying `Inv`) and post-state `s'` -/
structure EndSpec (outcome : Nat → Nat × String) (exp height nowNs : Int) (s s' : State) : Prop where
  inv : Inv s'
  kept : ∀ j r, s.results j = some r → s'.results j = some r
  fresh : ∀ j r, s.results j = none → s'.results j = some r →
      ∃ req, s.requests j = some req ∧
        ((j ∈ s.pending ∧ r = mkRes req (s.reports j).length (unixOf nowNs) (outcome j).1 (outcome j).2) ∨
         (j ∉ s.pending ∧ req.height + exp ≤ height ∧
            r = mkRes req (s.reports j).length (unixOf nowNs) statusExpired ""))
  resolved : ∀ j ∈ s.pending, (s'.results j).isSome
  pending : s'.pending = []
  vstat : ∀ v, s'.vstat v ≠ s.vstat v → ∃ id req, s.requests id = some req ∧ v ∈ req.vals ∧ v ∉ s.reports id ∧
      req.height + exp ≤ height ∧ s.lastExpired < id ∧ id ≤ s'.lastExpired

theorem endBlock_spec (s : State) (outcome : Nat → Nat × String) (exp height nowNs : Int) (h : Inv s) :
    ∃ s', endBlock s outcome exp height nowNs = some s' ∧ EndSpec outcome exp height nowNs s s' := by
  unfold endBlock
  simp only [resolvePending_eq _ _ _ _ h.pend_req]
  -- `processExpired` starts from `s` with the pending ids resolved and `pending` cleared; all other fields are those
  -- of `s`, so the remaining clauses of its spec are, by unfolding, the clauses wanted
  have hP2 : PInv { s with
      results := fun j => if j ∈ s.pending then (s.requests j).map fun req =>
        mkRes req (s.reports j).length (unixOf nowNs) (outcome j).1 (outcome j).2 else s.results j
      pending := [] } := by
    refine ⟨h.live_req, h.beyond, h.le, fun id h1 h2 => ?_⟩
    show (if _ then _ else _ : Option Res).isSome
    split
    · simpa using h.pend_req id ‹_›
    · exact h.expired_has_result id h1 h2
  obtain ⟨s', hs', e⟩ := processExpired_spec exp height (unixOf nowNs) nowNs _ _ hP2
  have pend : ∀ j ∈ s.pending, ∃ req, s.requests j = some req ∧
      s'.results j = some (mkRes req (s.reports j).length (unixOf nowNs) (outcome j).1 (outcome j).2) := fun j hj => by
    obtain ⟨req, hq⟩ := Option.isSome_iff_exists.mp (h.pend_req j hj)
    exact ⟨req, hq, e.kept j _ ((if_pos hj).trans (by rw [hq]; rfl))⟩
  refine ⟨s', hs', { inv := e.pinv.toInv e.pending, pending := e.pending, vstat := e.vstat
                     kept := fun j r hj => e.kept j r ?_, fresh := fun j r hj hj' => ?_, resolved := fun j hj => ?_ }⟩
  · exact (if_neg fun hm => by simp [h.pend_open j hm] at hj).trans hj
  · by_cases hm : j ∈ s.pending
    · obtain ⟨req, hq, hres⟩ := pend j hm
      exact ⟨req, hq, .inl ⟨hm, Option.some.inj (hj'.symm.trans hres)⟩⟩
    · obtain ⟨req, q1, q2, q3⟩ := e.fresh j r ((if_neg hm).trans hj) hj'
      exact ⟨req, q1, .inr ⟨hm, q2, q3⟩⟩
  · obtain ⟨_, _, hres⟩ := pend j hj
    rw [hres]; rfl

theorem endBlock_spec_of_some {s s' : State} {o : Nat → Nat × String} {e ht n : Int} (hinv : Inv s)
    (hs : endBlock s o e ht n = some s') : EndSpec o e ht n s s' := by
  obtain ⟨s'', e1, spec⟩ := endBlock_spec s o e ht n hinv
  cases hs.symm.trans e1; exact spec

theorem inv_init : Inv State.init := by
  refine ⟨?_, ?_, ?_, List.nodup_nil, ?_, ?_, Nat.le_refl _, ?_⟩ <;> intro id <;> simp [State.init] <;> omega

theorem inv_addRequest (s : State) (r : Req) (h : Inv s) : Inv (addRequest s r) := by
  -- a pending id is an existing request, so it is not the id the next request gets
  have hp : ∀ id ∈ s.pending, id ≠ s.count + 1 := fun id hid e => by
    simpa [h.beyond id (by omega)] using h.pend_req id hid
  refine ⟨h.pend_open, fun id hid => ?_, fun id hid => ?_, h.pend_nodup, fun id h1 h2 => ?_, fun id hid => ?_,
    Nat.le_succ_of_le h.le, h.expired_has_result⟩ <;> simp only [addRequest] at *
  · rw [if_neg (hp id hid)]; exact h.pend_req id hid
  · rw [if_neg (hp id hid)]; exact h.pend_full id hid
  · split
    · rfl
    · exact h.live_req id h1 (by omega)
  · rw [if_neg (by omega)]; exact h.beyond id (by omega)

theorem reportBasic_ok_iff {eids : List Nat} : reportBasic eids = RErr.ok ↔ eids ≠ [] ∧ eids.Nodup := by
  unfold reportBasic; cases eids <;> simp

theorem reportErr_ok_iff {s : State} {val rid : Nat} {eids : List Nat} {ov : Bool} :
    reportErr s val rid eids ov = RErr.ok ↔
      reportBasic eids = RErr.ok ∧ ov = false ∧ s.lastExpired < rid ∧ checkValidReport s rid val eids = RErr.ok := by
  unfold reportErr
  cases reportBasic eids <;> cases ov <;> simp
  split <;> simp [*] <;> omega

theorem checkValid_ok (s : State) (rid val : Nat) (eids : List Nat) (h : checkValidReport s rid val eids = RErr.ok) :
    ∃ req, s.requests rid = some req ∧ val ∈ req.vals ∧ val ∉ s.reports rid ∧ eids.length = req.eids.length ∧
      ∀ e ∈ eids, e ∈ req.eids := by
  unfold checkValidReport at h
  cases hr : s.requests rid with
  | none => simp [hr] at h
  | some req =>
    simp only [hr] at h
    split at h; · cases h
    split at h; · cases h
    split at h; · cases h
    split at h
    case isFalse => cases h
    rename_i h1 h2 h3 h4
    refine ⟨req, rfl, by simpa using h1, h2, by simpa using h3, fun e he => ?_⟩
    have := List.all_eq_true.mp h4 e he
    simpa using this

theorem reportApply_eq {s : State} {rid : Nat} {req : Req} (h : s.requests rid = some req) (val : Nat) :
    reportApply s val rid = { s with
      reports := fun i => if i = rid then s.reports rid ++ [val] else s.reports i
      pending := if (s.results rid).isNone && (s.reports rid ++ [val]).length == req.minCount
        then s.pending ++ [rid] else s.pending } := by
  simp only [reportApply, h]; split <;> rfl

theorem report_cases (s : State) (val rid : Nat) (eids : List Nat) (ov : Bool) :
    Guarded .ok s (report s val rid eids ov) fun s' => ∃ req, s' = reportApply s val rid ∧
      s.requests rid = some req ∧ val ∈ req.vals ∧ val ∉ s.reports rid ∧ s.lastExpired < rid ∧
      eids.Nodup ∧ eids ≠ [] ∧ eids.length = req.eids.length ∧ (∀ e ∈ eids, e ∈ req.eids) ∧ ov = false := by
  unfold report
  cases he : reportErr s val rid eids ov
  case ok =>
    obtain ⟨hb, hov, hlt, hc⟩ := reportErr_ok_iff.mp he
    obtain ⟨req, hreq, a, b, c, d⟩ := checkValid_ok s rid val eids hc
    exact .accept ⟨req, rfl, hreq, a, b, hlt, (reportBasic_ok_iff.mp hb).2, (reportBasic_ok_iff.mp hb).1, c, d, hov⟩
  all_goals exact .reject nofun

theorem reportApply_results (s : State) (val rid : Nat) : (reportApply s val rid).results = s.results := by
  unfold reportApply; split
  · rfl
  · split <;> rfl

/-- the invariant bounds the report lists of pending ids from below only -/
theorem Inv.reports_grow {s : State} (h : Inv s) (reps : Nat → List Nat) (hg : ∀ i, (s.reports i).length ≤ (reps i).length) :
    Inv { s with reports := reps } :=
  { h with pend_full := fun id hid req hreq => Nat.le_trans (h.pend_full id hid req hreq) (hg id) }

theorem Inv.push {s : State} (h : Inv s) {rid : Nat} {req : Req} (hreq : s.requests rid = some req) (hopen : s.results rid = none)
    (hfull : req.minCount ≤ (s.reports rid).length) (hnot : rid ∉ s.pending) : Inv { s with pending := s.pending ++ [rid] } := by
  refine ⟨?_, ?_, ?_, ?_, h.live_req, h.beyond, h.le, h.expired_has_result⟩
  · exact List.forall_mem_append.mpr ⟨h.pend_open, by simpa using hopen⟩
  · exact List.forall_mem_append.mpr ⟨h.pend_req, by simp [hreq]⟩
  · exact List.forall_mem_append.mpr ⟨h.pend_full, by simpa [hreq] using hfull⟩
  · exact nodup_concat h.pend_nodup hnot

theorem inv_report (s : State) (val rid : Nat) (eids : List Nat) (ov : Bool) (h : Inv s) :
    Inv (report s val rid eids ov).1 := by
  refine (report_cases s val rid eids ov).inv h ?_
  rintro _ ⟨req, rfl, hreq, -⟩
  rw [reportApply_eq hreq]
  have h1 := h.reports_grow (fun i => if i = rid then s.reports rid ++ [val] else s.reports i) fun i => by
    split <;> simp [*]
  split
  · rename_i hcond
    simp only [Bool.and_eq_true, Option.isNone_iff_eq_none, beq_iff_eq, List.length_append, List.length_singleton] at hcond
    -- a pending id already had `minCount` reports, so the count cannot only now reach it
    refine h1.push hreq hcond.1 (by simp [hcond.2]) fun hm => ?_
    have := h.pend_full rid hm req hreq; omega
  · exact h1

end BandVerif.Oracle
