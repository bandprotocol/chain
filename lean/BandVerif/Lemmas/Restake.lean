/- Lemmas for C16 over Model/Restake.lean: the by-power index walk `isValidPower` says "the power covers every lock in a
   still-active vault" (`isValidPower_iff`, from the sortedness of the index order), and the handlers that do not consult
   it, each analysed once (those that do are stated with `C16.Covers` and sit in Props/C16.lean). -/
import BandVerif.Model.Restake
import BandVerif.Common.Guarded
import BandVerif.Common.ListFacts

namespace BandVerif.Restake

theorem idxGe_power (x y : Nat × String) (h : idxGe x y = true) : y.1 ≤ x.1 := by
  unfold idxGe at h; simp at h; omega

theorem idxGe_trans (a b c : Nat × String) (h1 : idxGe a b = true) (h2 : idxGe b c = true) : idxGe a c = true := by
  unfold idxGe at *
  simp only [Bool.or_eq_true, Bool.and_eq_true, decide_eq_true_eq] at *
  rcases h1 with h1 | ⟨e1, g1⟩
  · rcases h2 with h2 | ⟨e2, _⟩
    · left; omega
    · left; omega
  · rcases h2 with h2 | ⟨e2, g2⟩
    · left; omega
    · right; exact ⟨by omega, String.le_trans g2 g1⟩

theorem idxGe_total (a b : Nat × String) : (idxGe a b || idxGe b a) = true := by
  unfold idxGe
  simp only [Bool.or_eq_true, Bool.and_eq_true, decide_eq_true_eq]
  by_cases h : a.1 > b.1
  · exact Or.inl (Or.inl h)
  · by_cases h' : b.1 > a.1
    · exact Or.inr (Or.inl h')
    · have e : a.1 = b.1 := by omega
      rcases String.le_total b.2 a.2 with g | g
      · exact Or.inl (Or.inr ⟨e, g⟩)
      · exact Or.inr (Or.inr ⟨e.symm, g⟩)

/-- on a list sorted by descending index key the walk decides by the largest active power, which bounds all the others -/
theorem firstActive_covers (s : State) (power : Nat) (l : List (Nat × String)) (hs : l.Pairwise (fun a b => idxGe a b = true)) :
    (match firstActive s l with | none => true | some p => decide (power ≥ p)) = true ↔
      ∀ e ∈ l, isActiveVault s e.2 = true → e.1 ≤ power := by
  induction l with
  | nil => simp [firstActive]
  | cons x xs ih =>
    obtain ⟨p0, k0⟩ := x
    obtain ⟨hx, hxs⟩ := List.pairwise_cons.mp hs
    simp only [firstActive, List.forall_mem_cons]
    by_cases ha : isActiveVault s k0 = true
    · simp only [ha, if_true, decide_eq_true_eq]
      exact ⟨fun h => ⟨fun _ => h, fun e he _ => Nat.le_trans (idxGe_power _ _ (hx e he)) h⟩, fun h => h.1 trivial⟩
    · rw [if_neg ha, ih hxs]
      exact ⟨fun h => ⟨fun h' => absurd h' ha, h⟩, fun h => h.2⟩

theorem isValidPower_iff (s : State) (a : Acct) (power : Nat) :
    isValidPower s a power = true ↔ ∀ e ∈ indexEntries s a, isActiveVault s e.2 = true → e.1 ≤ power := by
  unfold isValidPower
  refine (firstActive_covers s power _ (List.pairwise_mergeSort idxGe_trans idxGe_total _)).trans ?_
  simp only [(List.mergeSort_perm _ _).mem_iff]

theorem mem_indexEntries (s : State) (a : Acct) (p : Nat) (k : String) :
    (p, k) ∈ indexEntries s a ↔ k ∈ s.lockKeys a ∧ s.locks a k = some p := by
  unfold indexEntries
  simp only [List.mem_filterMap]
  constructor
  · rintro ⟨k', hk', h⟩
    cases hl : s.locks a k' with
    | none => simp [hl] at h
    | some q => simp [hl] at h; obtain ⟨rfl, rfl⟩ := h; exact ⟨hk', hl⟩
  · rintro ⟨hk, hl⟩
    exact ⟨k, hk, by simp [hl]⟩

theorem mem_insertKey (l : List String) (k x : String) : x ∈ insertKey l k ↔ x ∈ l ∨ x = k := mem_ite_concat l k x

theorem stakeOp_cases (s : State) (a : Acct) (d : String) (n : Nat) :
    Guarded .ok s (stakeOp s a d n) fun s' => s' =
      { s with bal := fun x e => if x = a ∧ e = d then s.bal a d - n else s.bal x e,
               moduleBal := fun e => if e = d then s.moduleBal d + n else s.moduleBal e,
               stake := fun x e => if x = a ∧ e = d then s.stake a d + n else s.stake x e } :=
  .ite nofun fun _ => .ite nofun fun _ => .accept rfl

/-- `GetOrCreateVault` leaves the vault of `k` active whether it created it or found it, so both accepted branches
    end in the same state -/
theorem setLockOp_cases (s : State) (a : Acct) (k : String) (pw : Int) :
    Guarded .ok s (setLockOp s a k pw) fun s' => s' =
      { s with vaults := fun x => if x = k then some true else s.vaults x,
               locks := fun x y => if x = a ∧ y = k then some pw.toNat else s.locks x y,
               lockKeys := fun x => if x = a then insertKey (s.lockKeys a) k else s.lockKeys x } ∧
      0 ≤ pw ∧ pw < 18446744073709551616 ∧ pw ≤ (totalPower s a : Int) ∧ s.vaults k ≠ some false := by
  refine .ite nofun fun h1 => .ite nofun fun h2 => ?_
  cases hv : s.vaults k with
  | none =>
    simp only [isActiveVault, if_false]
    exact .accept ⟨rfl, by omega, by omega, by omega, nofun⟩
  | some b =>
    simp only [isActiveVault, hv]
    cases b with
    | false => exact .reject nofun
    | true =>
      have : (fun x => if x = k then some true else s.vaults x) = s.vaults := funext fun x => by split <;> simp [*]
      exact .accept ⟨by rw [this], by omega, by omega, by omega, nofun⟩

theorem deactivateOp_cases (s : State) (k : String) :
    Guarded .ok s (deactivateOp s k) fun s' => s' = { s with vaults := fun x => if x = k then some false else s.vaults x } := by
  unfold deactivateOp
  split
  · exact .reject nofun
  · exact .reject nofun
  · exact .accept rfl

end BandVerif.Restake
