/- C03: the table routine is total and correct.  For distinct member ids in 1..20 the exponent of every table prime stays
   within the precomputed powers (`counts_bound`), so the routine neither indexes outside its tables (no Go panic) nor
   overflows (`loop_spec`), the exponent vector has the value ∏ j / ∏ |j − i| (`val_countsOf`), and the routine returns the
   true Lagrange coefficient at 0 (`pre_spec`); `checkLagrangeInput` in closed form (`checkInput_eq`).  The dispatcher
   theorems are read off in Props/C03.lean.  Mathlib. -/
import BandVerif.Lemmas.LagrangeTable

namespace BandVerif.Lagrange

/-- the distances from i of the full committee 1..20 without i: 1, …, i−1 below i and 1, …, 20−i above it -/
theorem dist_full_perm (i : Nat) (hi : i ≤ 20) :
    (((List.range' 1 20).filter (· ≠ i)).map (dist i)).Perm (List.range' 1 (i - 1) ++ List.range' 1 (20 - i)) := by
  have : ∀ i ∈ List.range 21,
      (((List.range' 1 20).filter (· ≠ i)).map (dist i)).Perm (List.range' 1 (i - 1) ++ List.range' 1 (20 - i)) := by decide +kernel
  exact this i (List.mem_range.mpr (by omega))

/-- the bound on the exponents, checked on the tables for every i in 0..20: the exponents of k in those distances add up to at most
    how far the power table of k reaches (`tblMax k`; for a k without a table both sides are 0).  The product of the distances is
    (i−1)!·(20−i)!, which divides 20!; for i = 0 it is 20!, and the bound is met.  (Summed over the full committee with `dist i j`
    inside, the same check costs the kernel three times as much: no two `vexp k (dist i j)` are the same term.) -/
theorem vexp_dist_le (i k : Nat) (hi : i ≤ 20) (hk : k < 20) :
    ((List.range' 1 (i - 1)).map (vexp k)).sum + ((List.range' 1 (20 - i)).map (vexp k)).sum ≤ tblMax k := by
  have : ∀ i ∈ List.range 21, ∀ k ∈ List.range 20,
      ((List.range' 1 (i - 1)).map (vexp k)).sum + ((List.range' 1 (20 - i)).map (vexp k)).sum ≤ tblMax k := by decide +kernel
  exact this i (List.mem_range.mpr (by omega)) k (List.mem_range.mpr hk)

theorem sum_le_of_nodup_subset (l m : List Nat) (f : Nat → Nat) (hl : l.Nodup) (hs : ∀ x ∈ l, x ∈ m) :
    (l.map f).sum ≤ (m.map f).sum := by
  have hsp : l.Subperm m := List.subperm_of_subset hl hs
  obtain ⟨l', hp, hsub⟩ := hsp
  calc (l.map f).sum = (l'.map f).sum := ((hp.map f).sum_eq).symm
    _ ≤ (m.map f).sum := (hsub.map f).sum_le_sum (fun _ _ => Nat.zero_le _)

theorem filter_ne_bounds (i : Nat) (s : List Nat) (hs : ∀ j ∈ s, 1 ≤ j ∧ j ≤ 20) : ∀ j ∈ s.filter (· ≠ i), 1 ≤ j ∧ j ≤ 20 ∧ j ≠ i := by
  intro j hj
  obtain ⟨m1, m2⟩ := List.mem_filter.mp hj
  exact ⟨(hs j m1).1, (hs j m1).2, by simpa using m2⟩

/-- a committee of distinct ids in 1..20 without i is part of the full one, so its distances from i weigh no more -/
theorem sum_vexp_dist_le (i k : Nat) (hi : i ≤ 20) (hk : k < 20) (js : List Nat) (hnd : js.Nodup)
    (hjs : ∀ j ∈ js, 1 ≤ j ∧ j ≤ 20 ∧ j ≠ i) : (js.map fun j => vexp k (dist i j)).sum ≤ tblMax k :=
  calc (js.map fun j => vexp k (dist i j)).sum
      ≤ (((List.range' 1 20).filter (· ≠ i)).map fun j => vexp k (dist i j)).sum :=
        sum_le_of_nodup_subset js _ _ hnd fun j hj => by have := hjs j hj; simp [List.mem_range'_1]; omega
    _ = ((List.range' 1 (i - 1)).map (vexp k)).sum + ((List.range' 1 (20 - i)).map (vexp k)).sum := by
        rw [← List.sum_append_nat, ← List.map_append, ← ((dist_full_perm i hi).map (vexp k)).sum_nat, List.map_map]; rfl
    _ ≤ tblMax k := vexp_dist_le i k hi hk

/-- for distinct ids in 1..20 every exponent stays within its power table: it is the difference of two sums between 0 and
    `tblMax k`, over the distances of the ids from 0 (the ids themselves: the numerator) and from i (the denominator) -/
theorem counts_bound (i : Nat) (s : List Nat) (hn : s.Nodup) (hi : i ≤ 20) (hs : ∀ j ∈ s, 1 ≤ j ∧ j ≤ 20)
    (k : Nat) (hk : k < 20) : ((countsOf i s).1 k).natAbs ≤ tblMax k := by
  have hjs := filter_ne_bounds i s hs
  have hA := sum_vexp_dist_le 0 k (Nat.zero_le _) hk _ (hn.filter _) fun j hj => ⟨(hjs j hj).1, (hjs j hj).2.1, by have := (hjs j hj).1; omega⟩
  have hB := sum_vexp_dist_le i k hi hk _ (hn.filter _) hjs
  simp only [dist, Nat.not_lt_zero, if_false, Nat.sub_zero] at hA
  rw [countsOf_eq]
  dsimp only
  omega

/-- the exponents of a product: for numbers `g j` in 1..20 the summed exponent vectors have the product of the `g j` as value -/
theorem val_sum_vexp (l : List Nat) (g : Nat → Nat) (hg : ∀ j ∈ l, 1 ≤ g j ∧ g j ≤ 20) :
    (((l.map fun j => vexp 0 (g j)).sum : ℕ) : Int) = 0 ∧
    val (fun k => (((l.map fun j => vexp k (g j)).sum : ℕ) : Int)) = (l.map fun j => ((g j : ℕ) : ZMod N)).prod := by
  induction l with
  | nil => exact ⟨rfl, val_zero⟩
  | cons j rest ih =>
    obtain ⟨z, v⟩ := val_vexp (g j) (hg j (List.mem_cons_self ..)).1 (hg j (List.mem_cons_self ..)).2
    obtain ⟨z', v'⟩ := ih fun j hj => hg j (List.mem_cons_of_mem _ hj)
    simp only [List.map_cons, List.sum_cons, List.prod_cons, Nat.cast_add]
    exact ⟨by omega, by rw [val_add _ _ z z', v, v']⟩

theorem val_countsOf (i : Nat) (s : List Nat) (hi : i ≤ 20) (hs : ∀ j ∈ s, 1 ≤ j ∧ j ≤ 20) :
    val (countsOf i s).1 = ((s.filter (· ≠ i)).map fun (j : Nat) => (j : ZMod N) * ((dist i j : ℕ) : ZMod N)⁻¹).prod := by
  have hjs := filter_ne_bounds i s hs
  obtain ⟨zA, vA⟩ := val_sum_vexp (s.filter (· ≠ i)) (fun j => j) fun j hj => ⟨(hjs j hj).1, (hjs j hj).2.1⟩
  obtain ⟨zB, vB⟩ := val_sum_vexp (s.filter (· ≠ i)) (dist i) fun j hj => by have := hjs j hj; unfold dist; split <;> omega
  rw [countsOf_eq, val_sub _ _ zA zB, vA, vB, List.prod_inv, List.map_map, ← List.prod_map_mul]
  rfl

/-- the factor of id j: its sign times j / |j − i| is j / (j − i) -/
theorem sgn_mul_div_dist (i j : Nat) :
    ((sgn i j : Int) : ZMod N) * ((j : ZMod N) * ((dist i j : ℕ) : ZMod N)⁻¹) = (j : ZMod N) / ((j : ZMod N) - (i : ZMod N)) := by
  unfold sgn dist
  split
  · rw [Nat.cast_sub (by omega), ← neg_sub (i : ZMod N), div_neg]; ring
  · rw [Nat.cast_sub (by omega)]; ring

/-- PROPERTY (table routine): for distinct ids in 1..20 the precomputed-table routine returns — no table index is out of range
    (in Go: no panic), no int64 product wraps around — and the value is ∏_{j ≠ i} j / (j − i) in the field of scalars -/
theorem pre_spec (i : Nat) (s : List Nat) (hn : s.Nodup) (hi : i ≤ 20) (hs : ∀ j ∈ s, 1 ≤ j ∧ j ≤ 20) :
    ∃ r, pre i s = some r ∧
      ((r : ℕ) : ZMod N) = ((s.filter (· ≠ i)).map (fun (j : Nat) => (j : ZMod N) / ((j : ZMod N) - (i : ZMod N)))).prod := by
  obtain ⟨num, den, hl, a1, a2, a3, a4, a5⟩ := loop_spec (countsOf i s).1 (counts_bound i s hn hi hs) 20 (Nat.le_refl _)
  rw [pre_eq, hl]
  refine ⟨_, rfl, ?_⟩
  have h20 := boundUpTo_le 20 (Nat.le_refl _)
  have cs : (countsOf i s).2 = ((s.filter (· ≠ i)).map (sgn i)).prod := congrArg Prod.snd (countsOf_eq i s)
  -- the sign multiplication is exact
  have hex : i64.mul num (countsOf i s).2 = num * (countsOf i s).2 := by
    rcases sgn_prod_unit i (s.filter (· ≠ i)) with e | e <;> exact i64_mul_exact (by rw [cs, e]; omega)
  have hden : ((den : Int) : ZMod N) ≠ 0 := cast_ne_zero den a3 (by have := N_bounds.1; omega)
  -- the result is num · sign · den⁻¹ mod N.  In the field, num / den is the value of the exponent vector (`a5`), which is
  -- ∏ j · |j − i|⁻¹ (`val_countsOf`), and the sign is ∏ sgn (`cs`); the two products are merged and each factor is j / (j − i)
  rw [hex, toNat_emod_cast, Int.cast_mul, Int.cast_mul, Int.cast_natCast, invN_spec den hden, mul_right_comm,
    show ((num : Int) : ZMod N) * ((den : Int) : ZMod N)⁻¹ = val (countsOf i s).1 from a5, val_countsOf i s hi hs, cs,
    Int.cast_list_prod, List.map_map, mul_comm, ← List.prod_map_mul]
  exact congrArg List.prod (List.map_congr_left fun j _ => sgn_mul_div_dist i j)

theorem checkInput_go_eq (mid : Nat) (l seen : List Nat) (inList opt : Bool) :
    checkInput.go mid l seen inList opt =
      if l.Nodup ∧ ∀ x ∈ l, x ∉ seen then
        if inList = true ∨ mid ∈ l then (opt && l.all (fun x => decide (x ≤ 20)), LErr.ok) else (false, LErr.notInList)
      else (false, LErr.duplicate) := by
  induction l generalizing seen inList opt with
  | nil => cases inList <;> simp [checkInput.go]
  | cons id rest ih =>
    rw [checkInput.go]
    by_cases hs : id ∈ seen
    · simp [hs]
    · have c1 : (rest.Nodup ∧ ∀ x ∈ rest, x ∉ id :: seen) ↔ ((id :: rest).Nodup ∧ ∀ x ∈ id :: rest, x ∉ seen) := by
        simp [forall_and, hs, List.forall_mem_ne']; tauto
      have c2 : ((inList || id == mid) = true ∨ mid ∈ rest) ↔ (inList = true ∨ mid ∈ id :: rest) := by
        cases inList <;> simp [eq_comm (a := mid)]
      rw [if_neg hs, ih]
      simp only [c1, c2, List.all_cons, Bool.and_assoc]

theorem checkInput_eq (mid : Nat) (l : List Nat) :
    checkInput mid l =
      if l.Nodup then if mid ∈ l then (l.all (fun x => decide (x ≤ 20)), LErr.ok) else (false, LErr.notInList)
      else (false, LErr.duplicate) := by
  simp [checkInput, checkInput_go_eq]

end BandVerif.Lagrange
