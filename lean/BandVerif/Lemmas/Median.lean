/- C06 lemmas.  `CalculatePricesPowers` is four sums (`pricesPowers_eq`), so `CalculatePrice` is a rule over them
   (`calculatePrice_eq`).  The section walk keeps the power taken so far within the current section (`CurOk`), so every
   weight is non-negative; on non-negative weights `firstHalf` over the price-sorted list stops at the lower weighted
   median (`firstHalf_median`), which is one of the AVAILABLE prices and exists exactly when there is one.  Core only. -/
import BandVerif.Model.Median
import BandVerif.Common.ListSum

namespace BandVerif.Median

/-- the reporting power of the entries that satisfy `f` -/
def sumIf (l : List Info) (f : Info → Bool) : Int := ((l.filter f).map (·.power)).sum

def isUnavail (i : Info) : Bool := i.status == signal_price_status_unavailable
def isUnsup (i : Info) : Bool := i.status == signal_price_status_unsupported

theorem avail_ne_unavail : signal_price_status_available ≠ signal_price_status_unavailable := by decide
theorem avail_ne_unsup : signal_price_status_available ≠ signal_price_status_unsupported := by decide
theorem unavail_ne_unsup : signal_price_status_unavailable ≠ signal_price_status_unsupported := by decide

theorem sumIf_concat (xs : List Info) (x : Info) (f : Info → Bool) :
    sumIf (xs ++ [x]) f = sumIf xs f + if f x then x.power else 0 := by
  unfold sumIf; by_cases h : f x = true <;> simp [h]

/-- `CalculatePricesPowers` is four sums.  The induction runs from the right end of the list, where the loop of `pricesPowers`
    takes its last step -/
theorem pricesPowers_eq (l : List Info) :
    pricesPowers l = ((l.map (·.power)).sum, sumIf l isAvail, sumIf l isUnavail, sumIf l isUnsup) := by
  obtain ⟨r, rfl⟩ : ∃ r, l = r.reverse := ⟨l.reverse, (List.reverse_reverse l).symm⟩
  induction r with
  | nil => rfl
  | cons x xs ih =>
    unfold pricesPowers at ih ⊢
    rw [List.reverse_cons, List.foldl_append, ih, List.foldl_cons, List.foldl_nil]
    simp only [sumIf_concat, List.map_append, List.sum_append, List.map_cons, List.map_nil, List.sum_cons, List.sum_nil, isAvail,
      isUnavail, isUnsup]
    -- of the three indicator terms on the right, only the one for the status of `x` is not 0
    by_cases h1 : x.status = signal_price_status_available
    · simp [h1, avail_ne_unavail, avail_ne_unsup]
    by_cases h2 : x.status = signal_price_status_unavailable
    · simp [h2, avail_ne_unavail.symm, unavail_ne_unsup]
    by_cases h3 : x.status = signal_price_status_unsupported
    · simp [h3, avail_ne_unsup.symm, unavail_ne_unsup.symm]
    · simp [h1, h2, h3]

theorem calculatePrice_eq (l : List Info) (q : Int) : calculatePrice l q =
    if 2 * sumIf l isUnsup > (l.map (·.power)).sum then Res.price price_status_unknown_signal_id 0
    else if (l.map (·.power)).sum = 0 ∨ (l.map (·.power)).sum < q ∨ 2 * sumIf l isAvail < (l.map (·.power)).sum
      then Res.price price_status_not_ready 0
    else match medianValidatorPriceInfos l with
      | some p => Res.price price_status_available p
      | none => Res.error := by
  simp only [calculatePrice, pricesPowers_eq, unsupportedWins, notReady, decide_eq_true_eq]
  rfl

theorem firstHalf_mem (total : Int) (l : List (Int × Nat)) (cum : Int) (p : Nat)
    (h : firstHalf total l cum = some p) : p ∈ l.map (·.2) := by
  induction l generalizing cum with
  | nil => simp [firstHalf] at h
  | cons x xs ih =>
    simp only [firstHalf] at h
    split at h
    · cases h; simp
    · simp only [List.map_cons, List.mem_cons]; exact Or.inr (ih _ h)

theorem medianWeightedPrice_mem (l : List (Int × Nat)) (p : Nat) (h : medianWeightedPrice l = some p) :
    p ∈ l.map (·.2) := by
  unfold medianWeightedPrice at h
  have := firstHalf_mem _ _ _ _ h
  obtain ⟨e, he, rfl⟩ := List.mem_map.mp this
  exact List.mem_map.mpr ⟨e, (List.mergeSort_perm _ _).mem_iff.mp he, rfl⟩

theorem weigh_prices (total : Int) (l : List Info) (cur : Int) (idx : Nat) :
    (weigh total l cur idx).map (·.2) = l.map (·.price) := by
  induction l generalizing cur idx with
  | nil => simp [weigh]
  | cons x xs ih => simp only [weigh, List.map_cons]; rw [ih]

theorem weightsOf_prices (l : List Info) :
    (weightsOf l).map (·.2) = ((validOf l).mergeSort timeOrder).map (·.price) :=
  weigh_prices ..

theorem median_mem (l : List Info) (p : Nat) (h : medianValidatorPriceInfos l = some p) :
    ∃ i ∈ l, isAvail i = true ∧ i.price = p := by
  have := medianWeightedPrice_mem _ _ h
  rw [weightsOf_prices] at this
  obtain ⟨i, hi, rfl⟩ := List.mem_map.mp this
  obtain ⟨h1, h2⟩ := List.mem_filter.mp ((List.mergeSort_perm _ _).mem_iff.mp hi)
  exact ⟨i, h1, h2, rfl⟩

theorem sections_mono (idx : Nat) (s s' : Int) (h : sections[idx]? = some s) (h' : sections[idx+1]? = some s') :
    s ≤ s' := by
  rcases idx with _|_|_|_|_ <;> simp [sections] at h h' <;> omega

theorem section_pos (idx : Nat) (s : Int) (h : sections[idx]? = some s) : 0 < s := by
  rcases idx with _|_|_|_|_|_ <;> simp [sections] at h <;> omega

theorem mult_range (idx : Nat) (m : Int) (h : multipliers[idx]? = some m) : 10 ≤ m ∧ m ≤ 60 := by
  rcases idx with _|_|_|_|_|_ <;> simp [multipliers] at h <;> omega

/-- section limit reached so far: `cur ≤ total * sections[idx]` (vacuous once all sections are used) -/
def CurOk (total cur : Int) (idx : Nat) : Prop := ∀ s, sections[idx]? = some s → cur ≤ total * s

/-- the walk keeps `cur` within the current section's limit, so every take — all that is left, or the room left in the
    section — is non-negative and the weight only grows -/
theorem walk_spec (total : Int) (ht : 0 ≤ total) (fuel idx : Nat) (cur left w : Int)
    (hc : CurOk total cur idx) (hl : 0 ≤ left) :
    CurOk total (walk total fuel idx cur left w).2.1 (walk total fuel idx cur left w).2.2 ∧
    w ≤ (walk total fuel idx cur left w).1 := by
  induction fuel generalizing idx cur left w with
  | zero => exact ⟨hc, Int.le_refl _⟩
  | succ fuel ih =>
    rw [walk]
    split
    · rename_i s m hs hm
      have hcs := hc s hs
      have hm : 0 < m := by have := mult_range idx m hm; omega
      simp only [fitsSection, decide_eq_true_eq]
      by_cases hf : cur + left ≤ total * s
      · -- everything fits: take all that is left and stop
        rw [if_pos hf, if_pos (Int.sub_self _)]
        exact ⟨fun s' hs' => by cases hs.symm.trans hs'; exact hf,
          Int.le_add_of_nonneg_right (Int.mul_nonneg hl (Int.le_of_lt hm))⟩
      · -- fill the section (a positive amount stays) and go on in the next one, whose limit is no smaller
        rw [if_neg hf, if_neg (by omega)]
        have hok : CurOk total (cur + (total * s - cur)) (idx + 1) := by
          rw [show cur + (total * s - cur) = total * s by omega]
          exact fun s' hs' => Int.mul_le_mul_of_nonneg_left (sections_mono idx s s' hs hs') ht
        have := ih (idx + 1) _ (left - (total * s - cur)) (w + (total * s - cur) * m) hok (by omega)
        exact ⟨this.1, Int.le_trans (Int.le_add_of_nonneg_right (Int.mul_nonneg (by omega) (Int.le_of_lt hm))) this.2⟩
    · exact ⟨hc, Int.le_refl _⟩

theorem weigh_nonneg (total : Int) (ht : 0 ≤ total) (l : List Info) (cur : Int) (idx : Nat)
    (hc : CurOk total cur idx) (hp : ∀ i ∈ l, 0 ≤ i.power) :
    ∀ e ∈ weigh total l cur idx, 0 ≤ e.1 := by
  induction l generalizing cur idx with
  | nil => exact fun e he => by simp [weigh] at he
  | cons x xs ih =>
    have := walk_spec total ht (sections.length + 1) idx cur (scale * x.power) 0 hc
      (Int.mul_nonneg (by decide) (hp x (List.mem_cons_self ..)))
    simp only [weigh, List.forall_mem_cons]
    exact ⟨this.2, ih _ _ this.1 fun i hi => hp i (List.mem_cons_of_mem _ hi)⟩

theorem weightsOf_nonneg (l : List Info) (hp : ∀ i ∈ l, 0 ≤ i.power) : ∀ e ∈ weightsOf l, 0 ≤ e.1 := by
  unfold weightsOf
  have hv : ∀ i ∈ validOf l, 0 ≤ i.power := fun i hi => hp i (List.mem_filter.mp hi).1
  have ht : 0 ≤ ((validOf l).map (·.power)).sum := sum_map_nonneg _ _ hv
  apply weigh_nonneg _ ht
  · exact fun s hs => Int.mul_nonneg ht (Int.le_of_lt (section_pos 0 s hs))
  · intro i hi; exact hv i ((List.mergeSort_perm _ _).mem_iff.mp hi)

theorem firstHalf_some (total : Int) (l : List (Int × Nat)) (cum : Int) (hne : l ≠ [])
    (htot : total = cum + (l.map (·.1)).sum) (h0 : 0 ≤ total) :
    ∃ p, firstHalf total l cum = some p := by
  induction l generalizing cum with
  | nil => exact absurd rfl hne
  | cons x xs ih =>
    obtain ⟨w, q⟩ := x
    simp only [firstHalf]
    split
    · exact ⟨q, rfl⟩
    · rename_i hh
      by_cases hx : xs = []
      · subst hx
        simp [halfReached] at hh htot
        omega
      · exact ih _ hx (by simp only [List.map_cons, List.sum_cons] at htot; omega)

theorem medianWeightedPrice_some (l : List (Int × Nat)) (hne : l ≠ []) (hw : ∀ e ∈ l, 0 ≤ e.1) :
    ∃ p, medianWeightedPrice l = some p := by
  unfold medianWeightedPrice
  have hperm := List.mergeSort_perm l priceOrder
  apply firstHalf_some
  · intro h; apply hne
    have := hperm.length_eq; rw [h] at this; exact List.length_eq_zero_iff.mp this.symm
  · omega
  · exact sum_map_nonneg _ _ fun e he => hw e (hperm.mem_iff.mp he)

/-- the weight priced strictly below `p`, -/
def wBelow (ws : List (Int × Nat)) (p : Nat) : Int := ((ws.filter (fun e => decide (e.2 < p))).map (·.1)).sum
/-- at or below `p`, -/
def wUpTo (ws : List (Int × Nat)) (p : Nat) : Int := ((ws.filter (fun e => decide (e.2 ≤ p))).map (·.1)).sum
/-- and all of it (`ws`: pairs of weight and price) -/
def wTotal (ws : List (Int × Nat)) : Int := (ws.map (·.1)).sum

theorem perm_sum {l₁ l₂ : List Int} (h : l₁.Perm l₂) : l₁.sum = l₂.sum :=
  h.foldr_eq' (f := (· + ·)) (fun _ _ _ _ _ => Int.add_left_comm ..) 0

theorem sum_filter_nonneg (xs : List (Int × Nat)) (P : Int × Nat → Bool) (hw : ∀ e ∈ xs, 0 ≤ e.1) :
    0 ≤ ((xs.filter P).map (·.1)).sum :=
  sum_map_nonneg _ _ fun e he => hw e (List.mem_filter.mp he).1

theorem wBelow_nonneg (xs : List (Int × Nat)) (p : Nat) (hw : ∀ e ∈ xs, 0 ≤ e.1) : 0 ≤ wBelow xs p :=
  sum_filter_nonneg xs _ hw

theorem priceOrder_le (a b : Int × Nat) (h : priceOrder a b = true) : a.2 ≤ b.2 := by
  unfold priceOrder at h; simp at h; omega

/-- The weighted median, for every set `P` of prices that is closed downwards at once (`wBelow` is the weight inside
    `· < p`, `wUpTo` that inside `· ≤ p`): over a list sorted by price with non-negative weights, the weight priced inside
    `P` reaches half of the total exactly when `P` contains the price at which `firstHalf` stops. -/
theorem firstHalf_median (total : Int) (l : List (Int × Nat)) (cum : Int) (p : Nat)
    (hs : l.Pairwise (fun a b => priceOrder a b = true)) (hw : ∀ e ∈ l, 0 ≤ e.1)
    (hc : 2 * cum < total) (h : firstHalf total l cum = some p)
    (P : Nat → Bool) (hP : ∀ q q', q' ≤ q → P q = true → P q' = true) :
    2 * (cum + ((l.filter fun e => P e.2).map (·.1)).sum) ≥ total ↔ P p = true := by
  induction l generalizing cum with
  | nil => simp [firstHalf] at h
  | cons x xs ih =>
    obtain ⟨w, q⟩ := x
    have hp := List.pairwise_cons.mp hs
    have hw0 : 0 ≤ w := hw (w, q) (List.mem_cons_self ..)
    have hwx : ∀ e ∈ xs, 0 ≤ e.1 := fun e he => hw e (List.mem_cons_of_mem _ he)
    have hin := sum_filter_nonneg xs (fun e => P e.2) hwx
    simp only [firstHalf, halfReached, decide_eq_true_eq] at h
    by_cases hq : P q = true
    · -- the head is priced inside `P`: its weight counts
      rw [List.filter_cons_of_pos (p := fun e => P e.2) (a := (w, q)) hq, List.map_cons, List.sum_cons]
      split at h
      · obtain rfl : q = p := Option.some.inj h
        exact ⟨fun _ => hq, fun _ => by omega⟩
      · rw [← ih (cum + w) hp.2 hwx (by omega) h]; omega
    · -- the head is priced outside `P`, and so is everything after it
      rw [List.filter_cons_of_neg (p := fun e => P e.2) (a := (w, q)) hq]
      split at h
      · obtain rfl : q = p := Option.some.inj h
        rw [List.filter_eq_nil_iff.mpr fun e he hpe => hq (hP _ _ (priceOrder_le _ _ (hp.1 e he)) hpe), List.map_nil, List.sum_nil]
        exact ⟨fun _ => by omega, fun hpq => absurd hpq hq⟩
      · obtain ⟨e, he, hep⟩ := List.mem_map.mp (firstHalf_mem _ _ _ _ h)
        have hnp : ¬ P p = true := fun hpp => hq (hP p q (hep ▸ priceOrder_le _ _ (hp.1 e he)) hpp)
        have := (not_congr (ih (cum + w) hp.2 hwx (by omega) h)).mpr hnp
        exact ⟨fun _ => by omega, fun hpp => absurd hpp hnp⟩

theorem priceOrder_trans (a b c : Int × Nat) (h1 : priceOrder a b = true) (h2 : priceOrder b c = true) :
    priceOrder a c = true := by
  unfold priceOrder at *; simp at *; omega

theorem priceOrder_total (a b : Int × Nat) : (priceOrder a b || priceOrder b a) = true := by
  unfold priceOrder; simp; omega

/-- MedianWeightedPrice returns the lower weighted median: strictly less than half of the weight
    lies strictly below it and at least half lies at or below it. -/
theorem medianWeightedPrice_is_median (l : List (Int × Nat)) (p : Nat) (hw : ∀ e ∈ l, 0 ≤ e.1)
    (hpos : 0 < wTotal l) (h : medianWeightedPrice l = some p) :
    2 * wBelow l p < wTotal l ∧ 2 * wUpTo l p ≥ wTotal l := by
  unfold medianWeightedPrice at h
  have hperm := List.mergeSort_perm l priceOrder
  have hsorted := List.pairwise_mergeSort priceOrder_trans priceOrder_total l
  have hw' : ∀ e ∈ l.mergeSort priceOrder, 0 ≤ e.1 := fun e he => hw e (hperm.mem_iff.mp he)
  simp only [] at h
  rw [show ((l.mergeSort priceOrder).map (·.1)).sum = wTotal l from perm_sum (hperm.map _)] at h
  have key := firstHalf_median (wTotal l) _ 0 p hsorted hw' (by omega) h
  -- the weight inside a set of prices does not depend on the order of the list
  simp only [fun P : Nat → Bool => perm_sum ((hperm.filter fun e => P e.2).map (·.1)), Int.zero_add] at key
  have below := key (fun q => decide (q < p)) fun q q' hle hq => by simp at hq ⊢; omega
  have upTo := key (fun q => decide (q ≤ p)) fun q q' hle hq => by simp at hq ⊢; omega
  -- `p` lies outside the first set and inside the second
  exact ⟨Int.not_le.mp ((not_congr below).mpr (by simp)), upTo.mpr (by simp)⟩

/-- does validator `v` count for the feed: bonded, oracle-active, and holding a price that `checkHavePrice` accepts -/
def counts (now interval : Int) (v : Val) : Bool :=
  v.bonded && v.active && match v.entry with
    | some (st, _, ts) => havePrice st ts now interval
    | none => false

theorem infoOf_isSome (now interval : Int) (v : Val) : (infoOf now interval v).isSome = counts now interval v := by
  unfold infoOf counts
  cases v.bonded && v.active
  · rfl
  · cases v.entry with
    | none => rfl
    | some e => simp only [if_true, Bool.true_and]; split <;> simp [*]

theorem feedInfos_filter (vals : List Val) (now interval : Int) :
    feedInfos (vals.filter (counts now interval)) now interval = feedInfos vals now interval := by
  unfold feedInfos
  rw [List.filterMap_filter]
  congr 1; funext v
  split
  · rfl
  · exact (Option.not_isSome_iff_eq_none.mp (infoOf_isSome now interval v ▸ ‹_›)).symm

end BandVerif.Median
