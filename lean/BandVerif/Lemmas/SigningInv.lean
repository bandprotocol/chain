/- C10, a signature submission: the per-step invariant `SInv` with its frame lemma, and what `submit` has to re-establish
   (`Core`, the clauses that `SInv` and the history invariant `HInv` of SigningHist.lean have in common;
   `addPartial_core`).  First a counting fact about duplicate-free lists.  Core-only. -/
import BandVerif.Lemmas.Signing

namespace BandVerif.Signing

theorem nodup_subset_length_eq_covers (l m : List Nat) (hl : l.Nodup) (hm : m.Nodup) (hs : ∀ x ∈ l, x ∈ m)
    (hlen : l.length = m.length) : ∀ x ∈ m, x ∈ l := fun x hx =>
  -- were `x` missing from `l`, `x :: l` would be a duplicate-free part of `m` and longer than `m`
  Decidable.by_contra fun hn => by
    have := (List.nodup_cons.mpr ⟨hn, hl⟩).length_le_of_subset (List.cons_subset.mpr ⟨hx, hs⟩)
    rw [List.length_cons, hlen] at this; omega

def ids (atm : Attempt) : List Nat := atm.assigned.map (·.1)

/- `SInv` is the invariant of the per-step theorem `C10.submit_preserves_invariant`; the invariant of the histories is `HInv`. -/
structure SInv (s : State) : Prop where
  /-- every scheduled expiry belongs to the CURRENT attempt of an existing signing that is WAITING, or
      SUCCESS with a complete partial-signature set -/
  e1 : ∀ sid att, (sid, att) ∈ s.expirations → ∃ sg atm, s.signings sid = some sg ∧ att = sg.attempt ∧
        s.attempts sid att = some atm ∧
        (sg.status = stWaiting ∨ (sg.status = stSuccess ∧ (s.partials sid att).length = atm.assigned.length))
  /-- at most one scheduled expiry per signing -/
  e2 : (s.expirations.map (·.1)).Nodup
  /-- pending ids are WAITING with a complete set -/
  e4 : ∀ sid ∈ s.pending, ∃ sg atm, s.signings sid = some sg ∧ sg.status = stWaiting ∧
        s.attempts sid sg.attempt = some atm ∧ (s.partials sid sg.attempt).length = atm.assigned.length
  /-- ids above the counter are unused -/
  e6 : ∀ sid, s.count < sid → s.signings sid = none ∧ (∀ att, s.attempts sid att = none ∧ s.partials sid att = []) ∧
        sid ∉ s.expirations.map (·.1)
  /-- a WAITING signing with a complete non-empty set is pending -/
  e8 : ∀ sid sg atm, s.signings sid = some sg → sg.status = stWaiting → s.attempts sid sg.attempt = some atm →
        atm.assigned ≠ [] → (s.partials sid sg.attempt).length = atm.assigned.length → sid ∈ s.pending
  /-- stored partial signatures come from distinct assigned members; committees have distinct members -/
  p1 : ∀ sid att atm, s.attempts sid att = some atm → (∀ m ∈ s.partials sid att, m ∈ ids atm) ∧
        (s.partials sid att).Nodup ∧ (ids atm).Nodup
  /-- a WAITING signing has its current attempt stored (from attempt 1 on: CreateSigning writes a WAITING record at attempt 0
      before the first round is started; `Live.l1` of SigningLive.lean needs no such proviso because it is only claimed of the
      states between operations, where no record at attempt 0 is WAITING) -/
  e5 : ∀ sid sg, s.signings sid = some sg → sg.status = stWaiting → 1 ≤ sg.attempt →
        (s.attempts sid sg.attempt).isSome ∧ (sid, sg.attempt) ∈ s.expirations

theorem sinv_of_frame (s s' : State) (h : SInv s) (a : s'.signings = s.signings) (b : s'.attempts = s.attempts)
    (c : s'.partials = s.partials) (d : s'.expirations = s.expirations) (e : s'.pending = s.pending)
    (f : s'.count = s.count) : SInv s' := by
  refine ⟨?_, ?_, ?_, ?_, ?_, ?_, ?_⟩
  · rw [a, b, c, d]; exact h.e1
  · rw [d]; exact h.e2
  · rw [a, b, c, e]; exact h.e4
  · rw [a, b, c, d, f]; exact h.e6
  · rw [a, b, c, e]; exact h.e8
  · rw [b, c]; exact h.p1
  · rw [a, b, d]; exact h.e5

/-- the part of `SInv` that `HInv` (SigningHist.lean) repeats word for word: all that a signature submission has to re-establish.
    `sched` = `e1` = `h1`, `once` = `e2` = `h2`, `pend` = `e4` = `h3`, `full` = `e8` = `h6`, `parts` = `p1`. -/
structure Core (s : State) : Prop where
  sched : ∀ sid att, (sid, att) ∈ s.expirations → ∃ sg atm, s.signings sid = some sg ∧ att = sg.attempt ∧
        s.attempts sid att = some atm ∧
        (sg.status = stWaiting ∨ (sg.status = stSuccess ∧ (s.partials sid att).length = atm.assigned.length))
  once : (s.expirations.map (·.1)).Nodup
  pend : ∀ sid ∈ s.pending, ∃ sg atm, s.signings sid = some sg ∧ sg.status = stWaiting ∧
        s.attempts sid sg.attempt = some atm ∧ (s.partials sid sg.attempt).length = atm.assigned.length
  full : ∀ sid sg atm, s.signings sid = some sg → sg.status = stWaiting → s.attempts sid sg.attempt = some atm →
        atm.assigned ≠ [] → (s.partials sid sg.attempt).length = atm.assigned.length → sid ∈ s.pending
  parts : ∀ sid att atm, s.attempts sid att = some atm → (∀ m ∈ s.partials sid att, m ∈ ids atm) ∧
        (s.partials sid att).Nodup ∧ (ids atm).Nodup

theorem SInv.core {s : State} (h : SInv s) : Core s := ⟨h.e1, h.e2, h.e4, h.e8, h.p1⟩

/-- AddPartialSignature for an assigned member of the current attempt of a WAITING signing that has not signed yet -/
theorem addPartial_core {s : State} (h : Core s) {sid member : Nat} {sg : Sig} {atm : Attempt} (hs : s.signings sid = some sg)
    (hw : sg.status = stWaiting) (ha : s.attempts sid sg.attempt = some atm) (hmem : member ∈ ids atm)
    (hnot : member ∉ s.partials sid sg.attempt) : Core (addPartial s sid sg.attempt member atm.assigned.length) := by
  rw [addPartial_eq]
  obtain ⟨r1, r2, r3⟩ := h.parts sid sg.attempt atm ha
  have hnd := nodup_concat r2 hnot
  have hsub : ∀ x ∈ s.partials sid sg.attempt ++ [member], x ∈ ids atm := fun x hx =>
    (List.mem_append.mp hx).elim (r1 x) fun h' => List.mem_singleton.mp h' ▸ hmem
  -- the old set was not complete: with the new member it is still a duplicate-free part of the committee
  have hlt : (s.partials sid sg.attempt).length < atm.assigned.length := by
    have := hnd.length_le_of_subset hsub
    rw [List.length_append, ids, List.length_map] at this; exact this
  -- the one cell of `partials` that changes belongs to `(sid, sg.attempt)`: WAITING, `atm`, incomplete before
  have cell : ∀ {i sg'}, s.signings i = some sg' → i = sid → sg' = sg := fun q1 e =>
    Option.some.inj ((e ▸ q1).symm.trans hs)
  refine ⟨?_, h.once, ?_, ?_, ?_⟩
  · intro i a hia
    obtain ⟨sg', atm', q1, q2, q3, q4⟩ := h.sched i a hia
    refine ⟨sg', atm', q1, q2, q3, q4.imp_right fun ⟨su, c⟩ => ⟨su, ?_⟩⟩
    show List.length (if i = sid ∧ a = sg.attempt then _ else _) = _
    rw [if_neg fun e => by rw [cell q1 e.1, hw] at su; cases su]; exact c
  · intro i hi
    have old : i ∈ s.pending → ∃ sg' atm', s.signings i = some sg' ∧ sg'.status = stWaiting ∧ s.attempts i sg'.attempt = some atm' ∧
        (if i = sid ∧ sg'.attempt = sg.attempt then s.partials sid sg.attempt ++ [member] else s.partials i sg'.attempt).length = atm'.assigned.length := by
      intro hi
      obtain ⟨sg', atm', q1, q2, q3, q4⟩ := h.pend i hi
      refine ⟨sg', atm', q1, q2, q3, ?_⟩
      rw [if_neg fun e => ?_]; exact q4
      -- a pending signing has a complete set (`q4`), the set being extended is incomplete (`hlt`): it is not this one
      cases cell q1 e.1; cases e.1; cases Option.some.inj (q3.symm.trans ha); omega
    dsimp only at hi
    split at hi
    · rcases List.mem_append.mp hi with h' | h'
      · exact old h'
      · cases List.mem_singleton.mp h'
        exact ⟨sg, atm, hs, hw, ha, by show List.length (if _ then _ else _) = _; rw [if_pos ⟨rfl, rfl⟩, List.length_append]; assumption⟩
    · exact old hi
  · intro i sg' atm' q1 q2 q3 q4 q5
    dsimp only at q5 ⊢
    by_cases e : i = sid
    · subst e
      cases Option.some.inj (q1.symm.trans hs); cases Option.some.inj (q3.symm.trans ha)
      rw [if_pos ⟨rfl, rfl⟩, List.length_append] at q5
      rw [if_pos (by exact q5)]; exact List.mem_append_right _ (List.mem_singleton_self _)
    · rw [if_neg fun e' => e e'.1] at q5
      have := h.full i sg' atm' q1 q2 q3 q4 q5
      split
      · exact List.mem_append_left _ this
      · exact this
  · intro i a atm' q
    dsimp only
    split
    · rename_i e; obtain ⟨rfl, rfl⟩ := e
      cases Option.some.inj (q.symm.trans ha)
      exact ⟨hsub, hnd, r3⟩
    · exact h.parts i a atm' q

end BandVerif.Signing
