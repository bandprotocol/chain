/-
Lemmas for C17 over Model/TunnelDeposit.lean: the message handlers, each analysed once (`*_cases`).  The ledger invariants
read a state only through `tot`, `dep`, the module balance and a few parameters; `Moved` says how a deposit or a withdrawal
changes that view, so that both directions share one proof.
-/
import BandVerif.Model.TunnelDeposit
import BandVerif.Common.Guarded

namespace BandVerif.TunnelDeposit

/-- recorded deposit of `a` in tunnel `tid` (0 when absent) -/
def dep (s : State) (tid a : Nat) (d : String) : Nat := ((s.deposits tid a).getD (fun _ => 0)) d
/-- total deposit of tunnel `tid` (0 when the tunnel does not exist) -/
def tot (s : State) (tid : Nat) (d : String) : Nat := (((s.tunnels tid).map (·.totalDeposit)).getD (fun _ => 0)) d

theorem geAll_iff (s : State) (a b : Coins) : geAll s a b = true ↔ ∀ d ∈ s.denoms, b d ≤ a d := by
  unfold geAll; simp [List.all_eq_true]

theorem isZero_iff (s : State) (a : Coins) : isZero s a = true ↔ ∀ d ∈ s.denoms, a d = 0 := by
  unfold isZero; simp [List.all_eq_true]

/-- the state after an accepted DepositToTunnel into tunnel `t` -/
def deposited (s : State) (tid acct : Nat) (amt : Coins) (t : Tunnel) : State :=
  { (setTunnel s tid { t with totalDeposit := addC t.totalDeposit amt }) with
    bal := fun a => if a = acct then subC (s.bal acct) amt else s.bal a,
    moduleBal := addC s.moduleBal amt,
    deposits := fun i a => if i = tid ∧ a = acct then
      some (match s.deposits tid acct with | none => amt | some d => addC d amt) else s.deposits i a }

theorem depositOp_cases (s : State) (tid a : Nat) (amt : Coins) :
    Guarded .ok s (depositOp s tid a amt) fun s' => ∃ t, s.tunnels tid = some t ∧ s' = deposited s tid a amt t ∧
      ∀ d ∈ s.denoms, amt d ≤ s.bal a d := by
  unfold depositOp
  split
  · exact .reject nofun
  rename_i t ht
  exact .ite nofun fun _ => .ite nofun fun h => .accept ⟨t, ht, rfl, (geAll_iff ..).mp (by simpa using h)⟩

theorem withdrawOp_cases (s : State) (tid a : Nat) (amt : Coins) :
    Guarded .ok s (withdrawOp s tid a amt) fun s' => ∃ t dd, s.tunnels tid = some t ∧ s.deposits tid a = some dd ∧
      (∀ d ∈ s.denoms, amt d ≤ dd d) ∧
      s' = if t.isActive && !geAll s (subC t.totalDeposit amt) s.minDeposit
           then deactivateTunnel (withdrawn s tid a amt t dd) tid else withdrawn s tid a amt t dd := by
  unfold withdrawOp
  split
  · exact .reject nofun
  rename_i t ht
  split
  · exact .reject nofun
  rename_i dd hd
  refine .ite nofun fun h => ?_
  have hle := (geAll_iff ..).mp (by simpa using h)
  split
  · rename_i hc; exact .accept ⟨t, dd, ht, hd, hle, (if_pos hc).symm⟩
  · rename_i hc; exact .accept ⟨t, dd, ht, hd, hle, (if_neg hc).symm⟩

theorem activateOp_cases (s : State) (tid x : Nat) :
    Guarded .ok s (activateOp s tid x) fun s' => ∃ t, s.tunnels tid = some t ∧ t.creator = x ∧ t.isActive = false ∧
      geAll s t.totalDeposit s.minDeposit = true ∧
      s' = { (setTunnel s tid { t with isActive := true }) with activeIdx := insertSorted s.activeIdx tid } := by
  unfold activateOp
  split
  · exact .reject nofun
  rename_i t ht
  refine .ite nofun fun hc => .ite nofun fun ha => ?_
  simp only [activateTunnel, ht]
  exact .ite nofun fun hg => .accept ⟨t, rfl, by simpa using hc, by simpa using ha, by simpa using hg, rfl⟩

theorem deactivateOp_cases (s : State) (tid x : Nat) :
    Guarded .ok s (deactivateOp s tid x) fun s' => ∃ t, s.tunnels tid = some t ∧ t.creator = x ∧ t.isActive = true ∧
      s' = deactivateTunnel s tid := by
  unfold deactivateOp
  split
  · exact .reject nofun
  rename_i t ht
  exact .ite nofun fun hc => .ite nofun fun ha => .accept ⟨t, ht, by simpa using hc, by simpa using ha, rfl⟩

/-- the state after the first step of MsgCreateTunnel: the next id holds a new inactive tunnel without deposit -/
def created (s : State) (creator : Nat) : State :=
  { (setTunnel s (s.count + 1) { creator := creator, isActive := false, totalDeposit := fun _ => 0 }) with count := s.count + 1 }

theorem createOp_cases (s : State) (c : Nat) (init : Coins) :
    Guarded .ok s (createOp s c init) fun s' =>
      s' = created s c ∨ s' = (depositOp (created s c) (s.count + 1) c init).1 := by
  unfold createOp
  dsimp only
  split
  · exact .accept (.inl rfl)
  split
  · rename_i e; exact .accept (.inr (congrArg Prod.fst e).symm)
  · rename_i hne _; exact .reject hne

/-- `DeactivateTunnel` without the case distinction -/
theorem deactivateTunnel_eq (s : State) (tid : Nat) : deactivateTunnel s tid =
    { s with tunnels := fun i => if i = tid then (s.tunnels tid).map ({ · with isActive := false }) else s.tunnels i,
             activeIdx := if (s.tunnels tid).isSome then s.activeIdx.filter (· ≠ tid) else s.activeIdx } := by
  unfold deactivateTunnel
  split
  · rename_i ht
    have : s.tunnels = fun i => if i = tid then (s.tunnels tid).map ({ · with isActive := false }) else s.tunnels i :=
      funext fun i => by split <;> simp [*]
    rw [ht] at this ⊢
    exact this ▸ rfl
  · rename_i t ht; simp only [setTunnel, ht]; rfl

theorem tot_deactivateTunnel (s : State) (tid i : Nat) (d : String) : tot (deactivateTunnel s tid) i d = tot s i d := by
  rw [deactivateTunnel_eq]
  unfold tot
  dsimp only
  split
  · rename_i e; subst e; cases s.tunnels i <;> rfl
  · rfl

theorem deactivateTunnel_some {s : State} {tid : Nat} {t : Tunnel} (ht : s.tunnels tid = some t) :
    deactivateTunnel s tid = { (setTunnel s tid { t with isActive := false }) with activeIdx := s.activeIdx.filter (· ≠ tid) } := by
  simp only [deactivateTunnel, ht]

/-- `s'` is `s` after `inn` was added to and `out` taken from three places: depositor `a`'s record in tunnel `tid`, that
    tunnel's total, the module account (deposit: `out = 0`; withdrawal: `inn = 0`).  Everything else the ledger invariants
    read is as before; `bal` speaks of the depositor's own account only (nobody else's balance enters the invariants).  A
    record is compared on the denoms in play only (a record that became zero there is deleted). -/
structure Moved (s s' : State) (tid a : Nat) (inn out : Coins) : Prop where
  le : ∀ d ∈ s.denoms, out d ≤ dep s tid a d + inn d
  record : ∀ d ∈ s.denoms, dep s' tid a d = dep s tid a d + inn d - out d
  recs : ∀ i b, i ≠ tid ∨ b ≠ a → s'.deposits i b = s.deposits i b
  total : ∀ d, tot s' tid d = tot s tid d + inn d - out d
  slots : ∀ i, i ≠ tid → s'.tunnels i = s.tunnels i
  mod : ∀ d, s'.moduleBal d = s.moduleBal d + inn d - out d
  bal : ∀ d, s'.bal a d = s.bal a d + out d - inn d
  count : s'.count = s.count
  denoms : s'.denoms = s.denoms
  accts : s'.accts = s.accts

theorem moved_deposited (s : State) (tid a : Nat) (amt : Coins) (t : Tunnel) (ht : s.tunnels tid = some t) :
    Moved s (deposited s tid a amt t) tid a amt (fun _ => 0) where
  le _ _ := Nat.zero_le _
  record d _ := by
    unfold dep deposited
    cases s.deposits tid a <;> simp [addC]
  recs _ _ h := if_neg fun e => h.elim (· e.1) (· e.2)
  total d := by simp [tot, deposited, setTunnel, ht, addC]
  slots _ h := if_neg h
  mod _ := rfl
  bal d := congrFun (if_pos rfl) d
  count := rfl
  denoms := rfl
  accts := rfl

theorem moved_withdrawn (s : State) (tid a : Nat) (amt : Coins) (t : Tunnel) (dd : Coins) (ht : s.tunnels tid = some t)
    (hd : s.deposits tid a = some dd) (hle : ∀ d ∈ s.denoms, amt d ≤ dd d) :
    Moved s (withdrawn s tid a amt t dd) tid a (fun _ => 0) amt where
  le d hd' := by simpa [dep, hd] using hle d hd'
  record d hd' := by
    unfold dep withdrawn
    simp only [and_self, if_true, hd]
    split
    · rename_i hz; simpa [subC] using ((isZero_iff ..).mp hz d hd').symm
    · simp [subC]
  recs _ _ h := if_neg fun e => h.elim (· e.1) (· e.2)
  total d := by simp [tot, withdrawn, setTunnel, ht, subC]
  slots _ h := if_neg h
  mod d := by simp [withdrawn, subC]
  bal d := congrFun (if_pos rfl) d
  count := rfl
  denoms := rfl
  accts := rfl

theorem Moved.deactivate {s s' : State} {tid a : Nat} {inn out : Coins} (m : Moved s s' tid a inn out) :
    Moved s (deactivateTunnel s' tid) tid a inn out := by
  have ht := fun d => (tot_deactivateTunnel s' tid tid d).trans (m.total d)
  rw [deactivateTunnel_eq] at ht ⊢
  -- `DeactivateTunnel` writes `tunnels` and `activeIdx` only: a clause that reads neither has, by unfolding, the type wanted
  exact { m with total := ht, slots := fun i h => (if_neg h).trans (m.slots i h) }

/-- the ledger view of an accepted deposit -/
theorem depositOp_moved (s : State) (tid a : Nat) (amt : Coins) (h : (depositOp s tid a amt).2 = Err.ok) :
    (s.tunnels tid).isSome ∧ (∀ d ∈ s.denoms, amt d ≤ s.bal a d) ∧ Moved s (depositOp s tid a amt).1 tid a amt (fun _ => 0) := by
  obtain ⟨t, ht, e, hb⟩ := (depositOp_cases s tid a amt).1 h
  rw [e, ht]; exact ⟨rfl, hb, moved_deposited s tid a amt t ht⟩

/-- the ledger view of an accepted withdrawal, deactivation included -/
theorem withdrawOp_moved (s : State) (tid a : Nat) (amt : Coins) (h : (withdrawOp s tid a amt).2 = Err.ok) :
    (s.tunnels tid).isSome ∧ Moved s (withdrawOp s tid a amt).1 tid a (fun _ => 0) amt := by
  obtain ⟨t, dd, ht, hd, hle, e⟩ := (withdrawOp_cases s tid a amt).1 h
  have m := moved_withdrawn s tid a amt t dd ht hd hle
  rw [e, ht]
  split
  · exact ⟨rfl, m.deactivate⟩
  · exact ⟨rfl, m⟩

end BandVerif.TunnelDeposit
