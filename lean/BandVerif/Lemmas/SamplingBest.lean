/- C09: "best of N tries by total weight" — the loop of ChooseSomeMaxWeight keeps the FIRST try with the LARGEST weight sum
   (the loop invariant `FirstBest`, `maxWeightGo_firstBest`), and under the chain's preconditions (positive weights whose sum fits uint64) the uint64 weight
   sum of a sample does not wrap and is positive (`weightSum_eq`, `weightSum_pos`).  Props/C09 puts the two together. -/
import BandVerif.Lemmas.Sampling

namespace BandVerif.Sampling

theorem chooseSome_weight_le (f : Nat → Nat) (cnt : Nat) (availI : List Nat) (rand : Nat → Nat) (pos : Nat) (l : List Nat)
    (h : chooseSome cnt (availI.map f) availI rand pos = some l) :
    (l.map f).sum ≤ (availI.map f).sum :=
  have ⟨_, _, hp⟩ := chooseSome_perm cnt _ availI rand pos l h
  (of_append_perm hp f).2.2

theorem range_map_getD (ws : List Nat) : (List.range ws.length).map (ws.getD · 0) = ws := by
  apply List.ext_getElem
  · simp
  · intro i h1 h2
    simp only [List.getElem_map]
    simp at h1
    simp [List.getElem?_eq_getElem h1]

/-- no uint64 wrap: a sample weighs at most what it was drawn from (`chooseSome_weight_le`), here `ws.sum < 2^64`, so
    `weightSum`'s reduction mod 2^64 is the identity -/
theorem weightSum_eq (ws : List Nat) (cnt : Nat) (rand : Nat → Nat) (pos : Nat) (l : List Nat) (hs : ws.sum < two64)
    (h : chooseSome cnt ws (List.range ws.length) rand pos = some l) : weightSum ws l = (l.map (ws.getD · 0)).sum := by
  have le := chooseSome_weight_le (ws.getD · 0) cnt _ rand pos l (by rwa [range_map_getD])
  rw [range_map_getD] at le
  rw [List.sum_eq_foldl_nat, List.foldl_map] at le ⊢
  exact Nat.mod_eq_of_lt (Nat.lt_of_le_of_lt le hs)

theorem weightSum_pos (ws : List Nat) (cnt : Nat) (rand : Nat → Nat) (pos : Nat) (l : List Nat)
    (hp : ∀ w ∈ ws, 0 < w) (hs : ws.sum < two64) (hc : 0 < cnt)
    (h : chooseSome cnt ws (List.range ws.length) rand pos = some l) : 0 < weightSum ws l := by
  obtain ⟨hlen, hmem, _⟩ := chooseSome_spec cnt ws _ rand pos l h
  rw [weightSum_eq ws cnt rand pos l hs h]
  cases l with
  | nil => simp at hlen; omega
  | cons i rest =>
    have hi : i < ws.length := List.mem_range.mp (hmem i (List.mem_cons_self ..))
    have : 0 < ws.getD i 0 := by
      rw [List.getD_eq_getElem?_getD, List.getElem?_eq_getElem hi]
      exact hp _ (List.getElem_mem hi)
    simp only [List.map_cons, List.sum_cons]; omega

/-- What the loop of ChooseSomeMaxWeight knows of `best` when the tries `t < n` are behind it.  Stated of all tries from the
    first one (not of the tries still to come) it is an invariant of the loop: a try that beats `best` beats every try before
    it, one that does not leaves both clauses as they are. -/
structure FirstBest (ws : List Nat) (cnt : Nat) (rand : Nat → Nat) (n : Nat) (best : List Nat) : Prop where
  /-- no try weighs more -/
  max : ∀ t l', t < n → chooseSome cnt ws (List.range ws.length) rand (t * cnt) = some l' → weightSum ws l' ≤ weightSum ws best
  /-- `best` is still the empty list the loop starts from, or the sample of a try that weighs strictly more than every
      earlier one (ties go to the first) -/
  first : best = [] ∨ ∃ t, t < n ∧ chooseSome cnt ws (List.range ws.length) rand (t * cnt) = some best ∧
    ∀ t' l', t' < t → chooseSome cnt ws (List.range ws.length) rand (t' * cnt) = some l' → weightSum ws l' < weightSum ws best

theorem FirstBest.zero (ws : List Nat) (cnt : Nat) (rand : Nat → Nat) : FirstBest ws cnt rand 0 [] :=
  ⟨fun _ _ h => absurd h (Nat.not_lt_zero _), .inl rfl⟩

theorem maxWeightGo_firstBest (ws : List Nat) (cnt : Nat) (rand : Nat → Nat) (tries each : Nat) (best l : List Nat)
    (hb : FirstBest ws cnt rand each best) (h : maxWeightGo ws cnt rand tries each (weightSum ws best) best = some l) :
    FirstBest ws cnt rand (each + tries) l := by
  induction tries generalizing each best with
  | zero => cases h; exact hb
  | succ tries ih =>
    simp only [maxWeightGo] at h
    cases hc : chooseSome cnt ws (List.range ws.length) rand (each * cnt) with
    | none => simp [hc] at h
    | some cand =>
      simp only [hc] at h
      rw [show each + (tries + 1) = each + 1 + tries by omega]
      -- the tries behind the loop are now those before `each` and `each` itself, whose sample is `cand`
      have last : ∀ {t l'}, t < each + 1 → chooseSome cnt ws (List.range ws.length) rand (t * cnt) = some l' → t < each ∨ l' = cand :=
        fun {t _} ht hl' => (Nat.lt_succ_iff_lt_or_eq.mp ht).imp_right fun e => Option.some.inj ((e ▸ hl').symm.trans hc)
      split at h
      · rename_i hgt
        refine ih _ _ ⟨fun t l' ht hl' => ?_, .inr ⟨each, Nat.lt_succ_self _, hc, fun t' l' ht' hl' => ?_⟩⟩ h
        · rcases last ht hl' with g | rfl
          · exact Nat.le_of_lt (Nat.lt_of_le_of_lt (hb.max t l' g hl') hgt)
          · exact Nat.le_refl _
        · exact Nat.lt_of_le_of_lt (hb.max t' l' ht' hl') hgt
      · rename_i hle
        refine ih _ _ ⟨fun t l' ht hl' => ?_, hb.first.imp_right fun ⟨t, ht, r⟩ => ⟨t, Nat.lt_succ_of_lt ht, r⟩⟩ h
        rcases last ht hl' with g | rfl
        · exact hb.max t l' g hl'
        · exact Nat.le_of_not_lt hle

theorem maxWeightGo_total (ws : List Nat) (cnt : Nat) (rand : Nat → Nat) (tries each bestSum : Nat) (best : List Nat)
    (ht : ∀ pos, ∃ l, chooseSome cnt ws (List.range ws.length) rand pos = some l) :
    ∃ l, maxWeightGo ws cnt rand tries each bestSum best = some l := by
  induction tries generalizing each bestSum best with
  | zero => exact ⟨best, rfl⟩
  | succ tries ih =>
    obtain ⟨cand, hc⟩ := ht (each * cnt)
    simp only [maxWeightGo, hc]
    split
    · exact ih _ _ _
    · exact ih _ _ _

end BandVerif.Sampling
