/- C11: what the evaluated check of `TickEval.lean` means: `log2Fast` is `log2Of`; which ticks and prices are looked at (`tlo`, `thi`,
   `tcut`, `loP`); a passed `tickChk` is `TickOK`, a passed `sweep` is `tickChk` at every tick. -/
import BandVerif.Lemmas.TickLog
import BandVerif.Lemmas.TickEval

namespace BandVerif.Tick

theorem msbFast_halvings (k p m : Nat) : msbFast (halvings k) p m = msbGo (halvings k) p m := by
  induction k generalizing p m with
  | zero => rfl
  | succ k ih =>
    have hpos : 0 < 2 ^ 2 ^ k := Nat.pow_pos (by decide)
    have e : p >>> 2 ^ k = p / 2 ^ 2 ^ k := Nat.shiftRight_eq_div_pow ..
    rw [halvings, msbFast_cons, msbGo, ih]
    split
    · have : 1 ≤ p >>> 2 ^ k := e ▸ (Nat.le_div_iff_mul_le hpos).mpr (by omega)
      rw [show 1 - (1 - p >>> 2 ^ k) = 1 by omega, Nat.mul_one]
    · rw [e, Nat.div_eq_of_lt (show p < 2 ^ 2 ^ k by omega)]; rfl

/- `msb6 p` unfolds to `msbFast (halvings 6) p 0` and `msbOf p` to `msbGo (halvings 6) p 0` -/
theorem msb6_eq (p : Nat) : msb6 p = msbOf p := msbFast_halvings 6 p 0

theorem sqStep_pack (acc r : Nat) (h : InR r) :
    sqStep (acc * 2 ^ 32 + r) = (2 * acc + (logStep r).1) * 2 ^ 32 + (logStep r).2 ∧ InR (logStep r).2 := by
  refine ⟨?_, (logStep_facts r h).2⟩
  have e1 : (acc * 2 ^ 32 + r) >>> 32 = acc := by rw [Nat.shiftRight_eq_div_pow]; have := h.2; omega
  have e2 : (acc * 2 ^ 32 + r) &&& 4294967295 = r := by
    rw [show (4294967295 : Nat) = 2 ^ 32 - 1 by decide, Nat.and_two_pow_sub_one_eq_mod]; omega
  rw [sqStep_eq, e1, e2, (logStep_eq r h).1]
  simp only [Nat.shiftLeft_eq, Nat.shiftRight_eq_div_pow, Nat.pow_add, ← Nat.div_div_eq_div_mul]

theorem sqIter_pack (k acc r : Nat) (h : InR r) :
    ∃ r', InR r' ∧ sqIter k (acc * 2 ^ 32 + r) = (2 ^ k * acc + logAdd k r) * 2 ^ 32 + r' := by
  induction k generalizing acc r with
  | zero => exact ⟨r, h, by simp [sqIter, logAdd]⟩
  | succ k ih =>
    obtain ⟨e, h'⟩ := sqStep_pack acc r h
    obtain ⟨r', hr', e'⟩ := ih (2 * acc + (logStep r).1) _ h'
    refine ⟨r', hr', ?_⟩
    have : 2 ^ k * (2 * acc + (logStep r).1) + logAdd k (logStep r).2 = 2 ^ k * 2 * acc + ((logStep r).1 * 2 ^ k + logAdd k (logStep r).2) := by
      rw [Nat.mul_add, Nat.mul_comm (2 ^ k) (logStep r).1, Nat.mul_assoc]; omega
    rw [sqIter, e, e', logAdd, this, Nat.pow_succ 2 k]

theorem log2Fast_eq (p : Nat) (h1 : 1 ≤ p) (h2 : p < 2 ^ 64) : log2Fast p = log2Of p := by
  obtain ⟨r', hr', e⟩ := sqIter_pack 16 (msbOf p) (mant p) (mant_inR p h1 h2)
  rw [log2Fast_def, msb6_eq, Nat.shiftLeft_eq p, Nat.shiftRight_eq_div_pow (p * 2 ^ 31), ← mant_eq p h1 h2, Nat.shiftLeft_eq, e,
    log2Of_eq p h1 h2]
  have := hr'.2
  omega

/-! The tick range of uint64 prices: price 1 lies in the segment of `tlo`, price 2⁶⁴ − 1 in that of `thi`
    (`x96_tlo`, `x96_thi` in `TickApprox.lean`). -/

def tlo : Int := -207244
def thi : Int := 236393

/-- the tick of price 1000.  Up to there hundreds of ticks share a price and it is cheaper to look at every price
    (`approxOK_low` in `TickApprox.lean`) than at every tick; the tick sweep starts here -/
def tcut : Int := -138163

/-- the least price whose target `price·2^96` reaches the price of tick `t` -/
def loP (t : Int) : Nat := (x96 t + q96 - 1) / q96

/-- what is checked at tick `t` if its first price `loP t` is a uint64 price: the approximation there is at least `t − 1`, and
    just below it (the last price of the segment before, if there is one) at most `t` -/
def TickOK (t : Int) : Prop :=
  1 ≤ loP t → loP t < 2 ^ 64 → t - 1 ≤ approxTick (loP t) ∧ (2 ≤ loP t → approxTick (loP t - 1) ≤ t)

/- `approxTick p` is `⌊(log2Of p − 1959352) · 454283648 / 2³²⌋`; adding `262144 · 2³²` inside the floor makes the numerator a natural number. -/
theorem apxOff_eq (p : Nat) (h1 : 1 ≤ p) (h2 : p < 2 ^ 64) : (apxOff (log2Fast p) : Int) = approxTick p + 262144 := by
  rw [log2Fast_eq p h1 h2, approxTick_eq]
  show (((log2Of p * 454283648 + 235798332566528) >>> 32 : Nat) : Int) = _
  omega

theorem tickChk_sound (u : Nat) (t : Int) (ht : (u : Int) = t + 262144) (h : tickChk u (loP t) = true) : TickOK t := by
  intro h1 h2
  simp only [tickChk, Bool.and_eq_true, Bool.or_eq_true, Nat.ble_eq, Nat.add_eq, Nat.sub_eq] at h
  obtain ⟨hl, hu⟩ := h
  have e := apxOff_eq _ h1 h2
  refine ⟨by omega, fun h3 => ?_⟩
  rcases hu with hu | hu
  · exact Int.le_trans (approxTick_mono _ _ (by omega) (Nat.sub_le ..) h2) (by omega)
  · have := apxOff_eq (loP t - 1) (by omega) (by omega)
    omega

theorem leafChk_sound (a : Nat) (h : leafChk a (ratio a) = true) :
    (a ≤ 138163 → TickOK (-(a : Int))) ∧ (1 ≤ a → a ≤ 236393 → TickOK a) := by
  simp only [leafChk, Bool.and_eq_true, Bool.or_eq_true, Nat.blt_eq] at h
  refine ⟨fun ha => ?_, fun h1 ha => ?_⟩
  · refine tickChk_sound (262144 - a) _ (by omega) ?_
    rcases h.1 with h | h
    · omega
    · have : x96 (-(a : Int)) = ratio a * billion := by rw [x96, if_neg (by omega), Int.natAbs_neg, Int.natAbs_natCast]
      rw [loP, this]; exact h
  · refine tickChk_sound (262144 + a) _ (by omega) ?_
    rcases h.2 with h | h
    · omega
    · have : x96 (a : Int) = maxUint192 / ratio a * billion := by rw [x96, if_pos (by omega), Int.natAbs_natCast]
      rw [loP, this]; exact h

theorem sweep_sound (l : List Nat) (w a acc : Nat) (h : sweep l w a acc = true) (b : Nat) (hb : b < 2 ^ l.length) :
    leafChk (a + w * b) (ratioBits l b acc) = true := by
  induction l generalizing w a acc b with
  | nil => simp at hb; subst hb; exact h
  | cons p rest ih =>
    obtain ⟨h0, h1⟩ := (sweep_cons ..).mp h
    rw [List.length_cons] at hb
    rw [ratioBits]
    have e : w * b = w * 2 * (b / 2) + w * (b % 2) := by rw [Nat.mul_assoc, ← Nat.mul_add, Nat.div_add_mod]
    split
    · rename_i hb1
      have := ih _ _ _ h1 (b / 2) (by omega)
      rwa [e, hb1, Nat.mul_one, Nat.add_comm _ w, ← Nat.add_assoc]
    · rename_i hb0
      have := ih _ _ _ h0 (b / 2) (by omega)
      rwa [e, show b % 2 = 0 by omega, Nat.mul_zero, Nat.add_zero]

/-- the tree below a node is checked once the subtrees below its `2 ^ k` descendants `k` levels down are -/
theorem sweep_split (k : Nat) (l : List Nat) (w a acc : Nat)
    (h : ∀ low, low < 2 ^ k → sweep (l.drop k) (w * 2 ^ k) (a + w * low) (ratioBits (l.take k) low acc) = true) :
    sweep l w a acc = true := by
  induction k generalizing l w a acc with
  | zero => simpa [ratioBits] using h 0 (by decide)
  | succ k ih =>
    cases l with
    | nil => simpa [ratioBits, sweep] using h 0 (Nat.pow_pos (by decide))
    | cons p rest =>
      have e : w * 2 ^ (k + 1) = w * 2 * 2 ^ k := by rw [Nat.pow_succ, Nat.mul_comm (2 ^ k), Nat.mul_assoc]
      refine (sweep_cons ..).mpr ⟨ih _ _ _ _ fun low hl => ?_, ih _ _ _ _ fun low hl => ?_⟩
      · have := h (2 * low) (by rw [Nat.pow_succ]; omega)
        rwa [List.take_succ_cons, ratioBits, Nat.mul_mod_right,
          Nat.mul_div_cancel_left _ (by decide), e, ← Nat.mul_assoc] at this
      · have := h (2 * low + 1) (by rw [Nat.pow_succ]; omega)
        rwa [List.drop_succ_cons, List.take_succ_cons, ratioBits, Nat.mul_add_mod, if_pos (by decide),
          show (2 * low + 1) / 2 = low by omega, e, Nat.mul_add, Nat.mul_one, ← Nat.mul_assoc,
          Nat.add_comm (w * 2 * low), ← Nat.add_assoc] at this

end BandVerif.Tick
