/- C11: the per-tick check behind `approx_within_one` as the kernel evaluates it (`TickEval/S*.lean`); it imports only the model, so that the
   evaluations depend on no proof.  What a passed check means is proved in `TickSweep.lean`; `log2Of` is that of
   `TickLog.lean`, `loP`, `tcut`, `thi` and `TickOK` are those of `TickSweep.lean`.  `ratioBits` is also what the monotonicity argument of
   `Tick.lean` works on. -/
import BandVerif.Model.Tick

namespace BandVerif.Tick

/-! The logarithm of `PriceToTick` once more, arranged for the kernel.

The kernel multiplies, shifts and compares literals natively, but only when it meets `Nat.mul`, `Nat.shiftRight`, … themselves:
`a * b` costs it the unfolding of `HMul.hMul`, `instHMul`, `instMulNat` at every evaluation, which is most of the work, and a
function compiled from structural recursion costs more to unfold than its body to evaluate.  So the definitions evaluated below
are written with the `Nat` operations applied directly and without recursion where the number of steps is fixed; where a
proof needs the reading in ordinary notation it follows the definition (`rfl`). -/

def min1 (x : Nat) : Nat := Nat.sub 1 (Nat.sub 1 x)

/-- the binary search of `msbGo` without branches: shift by `n` exactly when something is left above bit `n` -/
def msbFast : List (Nat × Nat) → Nat → Nat → Nat
  | [], _, m => m
  | (_, n) :: rest, p, m => msbFast rest (Nat.shiftRight p (Nat.mul n (min1 (Nat.shiftRight p n)))) (Nat.add m (Nat.mul n (min1 (Nat.shiftRight p n))))

theorem msbFast_cons (b n : Nat) (rest : List (Nat × Nat)) (p m : Nat) :
    msbFast ((b, n) :: rest) p m = msbFast rest (p >>> (n * (1 - (1 - p >>> n)))) (m + n * (1 - (1 - p >>> n))) := rfl

/-- `msbFast`, unrolled, on the six rows 32, 16, 8, 4, 2, 1 of `msbOf`'s table (definitionally `msbFast (halvings 6) p 0`) -/
def msb6 (p : Nat) : Nat :=
  let s5 := Nat.mul 32 (min1 (Nat.shiftRight p 32)); let p5 := Nat.shiftRight p s5
  let s4 := Nat.mul 16 (min1 (Nat.shiftRight p5 16)); let p4 := Nat.shiftRight p5 s4
  let s3 := Nat.mul 8 (min1 (Nat.shiftRight p4 8)); let p3 := Nat.shiftRight p4 s3
  let s2 := Nat.mul 4 (min1 (Nat.shiftRight p3 4)); let p2 := Nat.shiftRight p3 s2
  let s1 := Nat.mul 2 (min1 (Nat.shiftRight p2 2)); let p1 := Nat.shiftRight p2 s1
  Nat.add (Nat.add (Nat.add (Nat.add (Nat.add (Nat.add 0 s5) s4) s3) s2) s1) (Nat.mul 1 (min1 (Nat.shiftRight p1 1)))

/-- one squaring step of the logarithm on the packed state `log2 · 2³² + r`.  `PriceToTick` ORs the new bit into place
    `15 − i`; here the bits so far are doubled and the new bit added, which after sixteen steps is the same number -/
def sqStep (s : Nat) : Nat :=
  Nat.add (Nat.shiftLeft (Nat.add (Nat.mul 2 (Nat.shiftRight s 32)) (Nat.shiftRight (Nat.mul (Nat.land s 4294967295) (Nat.land s 4294967295)) 63)) 32)
    (Nat.shiftRight (Nat.mul (Nat.land s 4294967295) (Nat.land s 4294967295))
      (Nat.add 31 (Nat.shiftRight (Nat.mul (Nat.land s 4294967295) (Nat.land s 4294967295)) 63)))

theorem sqStep_eq (s : Nat) : sqStep s =
    ((2 * (s >>> 32) + ((s &&& 4294967295) * (s &&& 4294967295)) >>> 63) <<< 32) +
      ((s &&& 4294967295) * (s &&& 4294967295)) >>> (31 + ((s &&& 4294967295) * (s &&& 4294967295)) >>> 63) := rfl

def sqIter : Nat → Nat → Nat
  | 0, s => s
  | k + 1, s => sqIter k (sqStep s)

/-- `log2Of` for a positive uint64 price: sixteen steps from `msb · 2³² + mantissa`, where the mantissa `⌊p · 2³¹ / 2^msb⌋`
    covers both shift directions of `PriceToTick`.  The steps are written out: a combinator that iterates costs the kernel an unfolding
    per step -/
def log2Fast (p : Nat) : Nat :=
  Nat.shiftRight
    (sqStep (sqStep (sqStep (sqStep (sqStep (sqStep (sqStep (sqStep (sqStep (sqStep (sqStep (sqStep (sqStep (sqStep (sqStep (sqStep
      (Nat.add (Nat.shiftLeft (msb6 p) 32) (Nat.shiftRight (Nat.shiftLeft p 31) (msb6 p))))))))))))))))))) 32

theorem log2Fast_def (p : Nat) : log2Fast p = sqIter 16 (msb6 p <<< 32 + (p <<< 31) >>> msb6 p) >>> 32 := rfl

/-- `approxTick p + 262144` on `L = log2Of p`: with the offset of `PriceToTick` every tick is a natural number, and the `Int` shift
    becomes a shift of naturals (235798332566528 is `262144 · 2³² − 1959352 · 454283648`) -/
def apxOff (L : Nat) : Nat := Nat.shiftRight (Nat.add (Nat.mul L 454283648) 235798332566528) 32

/-- `TickOK t` on `u = t + 262144` and `lo = loP t`.  That `lo` is a uint64 price is not looked at here: `tickToPriceX96` is monotone,
    so the two end ticks say it for all (`approx_within_one`).  An upper bound at `lo` holds at `lo − 1` as well (the approximation
    is monotone), so the logarithm of `lo − 1` is computed only when the bound fails at `lo` -/
def tickChk (u lo : Nat) : Bool :=
  Nat.ble u (Nat.add (apxOff (log2Fast lo)) 1) &&
    (Nat.ble (apxOff (log2Fast lo)) u || Nat.ble (apxOff (log2Fast (Nat.sub lo 1))) u)

/-! All ticks at once.

`ratio a` multiplies the table entries of the set bits of `a`, lowest bit first, so two ticks that agree in their low bits
share the product so far.  `sweep` walks the binary tree of all `a < 2 ^ 18`, the accumulator being computed once per node,
and checks at each leaf `a` the ticks `−a` and `a`. -/

/-- `ratioGo` reads the tick only through the bits it has not consumed yet: the same loop on `u = a >>> i` -/
def ratioBits : List Nat → Nat → Nat → Nat
  | [], _, acc => acc
  | p :: rest, u, acc => ratioBits rest (u / 2) (if u % 2 = 1 then (acc * p) >>> 96 else acc)

theorem ratioGo_eq_bits (a : Nat) (l : List Nat) (i acc : Nat) : ratioGo a l i acc = ratioBits l (a >>> i) acc := by
  induction l generalizing i acc with
  | nil => rfl
  | cons p rest ih => rw [ratioGo, ratioBits, ih, mulIf, Nat.shiftRight_succ]

/-- the leaf `a` of the tree, with `R = ratio a`: tick `−a` (first price `loP (−a) = ⌈R · 10⁹ / 2⁹⁶⌉`) as long as `−a ≥ tcut`, and
    tick `a` (`⌈⌊maxUint192 / R⌋ · 10⁹ / 2⁹⁶⌉`) as long as `a ≤ thi`; at `a = 0` the second is not `tickToPriceX96 0` and is not used.
    (138163 is `−tcut`, 236393 is `thi`.) -/
def leafChk (a R : Nat) : Bool :=
  (Nat.blt 138163 a || tickChk (Nat.sub 262144 a) (Nat.div (Nat.sub (Nat.add (Nat.mul R billion) q96) 1) q96)) &&
    (Nat.blt 236393 a ||
      tickChk (Nat.add 262144 a) (Nat.div (Nat.sub (Nat.add (Nat.mul (Nat.div maxUint192 R) billion) q96) 1) q96))

def sweep : List Nat → Nat → Nat → Nat → Bool
  | [], _, a, acc => leafChk a acc
  | p :: rest, w, a, acc =>
    sweep rest (Nat.mul w 2) a acc && sweep rest (Nat.mul w 2) (Nat.add a w) (Nat.shiftRight (Nat.mul acc p) 96)

theorem sweep_cons (p : Nat) (rest : List Nat) (w a acc : Nat) :
    sweep (p :: rest) w a acc = true ↔ sweep rest (w * 2) a acc = true ∧ sweep rest (w * 2) (a + w) ((acc * p) >>> 96) = true :=
  Bool.and_eq_true_iff

/-- the subtree of the ticks whose four low bits are `low`; one evaluation of the whole tree would pass the default
    heartbeat limit -/
def subtree (low : Nat) : Bool :=
  sweep (Generated.Tick.priceX96AtBinaryTicks.drop 4) 16 low (ratioBits (Generated.Tick.priceX96AtBinaryTicks.take 4) low q96)

end BandVerif.Tick
